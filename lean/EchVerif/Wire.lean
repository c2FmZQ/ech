/-
  Wire: model of golang.org/x/crypto/cryptobyte `String` readers and `Builder` writers
  as used by c2FmZQ/ech, over `List UInt8`.  Core Lean only (no Mathlib) so that the
  driver executable links.
-/
abbrev Bytes := List UInt8

namespace Wire

/-! ## big-endian writers (cryptobyte.Builder.AddUintN: never fail, truncate like Go's conversions) -/
def u8 (n : Nat) : Bytes := [UInt8.ofNat n]
def u16 (n : Nat) : Bytes := [UInt8.ofNat (n / 256), UInt8.ofNat n]
def u24 (n : Nat) : Bytes := [UInt8.ofNat (n / 65536), UInt8.ofNat (n / 256), UInt8.ofNat n]
def u32 (n : Nat) : Bytes :=
  [UInt8.ofNat (n / 16777216), UInt8.ofNat (n / 65536), UInt8.ofNat (n / 256), UInt8.ofNat n]

/-- `AddUint8LengthPrefixed`: the builder records an error when the child is too long. -/
def lp8 (b : Bytes) : Option Bytes := if b.length < 256 then some (u8 b.length ++ b) else none
def lp16 (b : Bytes) : Option Bytes := if b.length < 65536 then some (u16 b.length ++ b) else none
def lp24 (b : Bytes) : Option Bytes := if b.length < 16777216 then some (u24 b.length ++ b) else none

/-! ## readers (cryptobyte.String.ReadUintN / ReadBytes / ReadUintNLengthPrefixed) -/
def readU8 : Bytes → Option (Nat × Bytes)
  | a :: rest => some (a.toNat, rest)
  | _ => none

def readU16 : Bytes → Option (Nat × Bytes)
  | a :: b :: rest => some (a.toNat * 256 + b.toNat, rest)
  | _ => none

def readU24 : Bytes → Option (Nat × Bytes)
  | a :: b :: c :: rest => some (a.toNat * 65536 + b.toNat * 256 + c.toNat, rest)
  | _ => none

def readU32 : Bytes → Option (Nat × Bytes)
  | a :: b :: c :: d :: rest =>
    some (a.toNat * 16777216 + b.toNat * 65536 + c.toNat * 256 + d.toNat, rest)
  | _ => none

def readN (n : Nat) (b : Bytes) : Option (Bytes × Bytes) :=
  if n ≤ b.length then some (b.take n, b.drop n) else none

def readLP8 (b : Bytes) : Option (Bytes × Bytes) :=
  match readU8 b with
  | none => none
  | some (n, rest) => readN n rest

def readLP16 (b : Bytes) : Option (Bytes × Bytes) :=
  match readU16 b with
  | none => none
  | some (n, rest) => readN n rest

def readLP24 (b : Bytes) : Option (Bytes × Bytes) :=
  match readU24 b with
  | none => none
  | some (n, rest) => readN n rest

/-! ## big-endian numbers, a byte at a time

`k+1` bytes are the `k` bytes of `n / 256` followed by the low byte, for the writers (`u16_succ` ..)
and for the readers (`readU16_succ` ..) alike; what holds of one byte then carries over to every
width by `succ_spec` and `succ_inv`. -/

private theorem ofNat_toNat_lt {n : Nat} (h : n < 256) : (UInt8.ofNat n).toNat = n := by
  simp [UInt8.toNat_ofNat']; omega

@[simp] theorem u8_length (n : Nat) : (u8 n).length = 1 := rfl
@[simp] theorem u16_length (n : Nat) : (u16 n).length = 2 := rfl
@[simp] theorem u24_length (n : Nat) : (u24 n).length = 3 := rfl
@[simp] theorem u32_length (n : Nat) : (u32 n).length = 4 := rfl

theorem u16_succ (n : Nat) : u16 n = u8 (n / 256) ++ u8 n := rfl
theorem u24_succ (n : Nat) : u24 n = u16 (n / 256) ++ u8 n := by
  simp only [u24, u16, u8, Nat.div_div_eq_div_mul]; rfl
theorem u32_succ (n : Nat) : u32 n = u24 (n / 256) ++ u8 n := by
  simp only [u32, u24, u8, Nat.div_div_eq_div_mul]; rfl

/-- one more byte below the number read so far -/
def more (p : Nat × Bytes) : Option (Nat × Bytes) :=
  (readU8 p.2).map fun q => (p.1 * 256 + q.1, q.2)

theorem readU16_succ (b : Bytes) : readU16 b = (readU8 b).bind more := by
  match b with
  | [] | [_] | _ :: _ :: _ => rfl
theorem readU24_succ (b : Bytes) : readU24 b = (readU16 b).bind more := by
  match b with
  | [] | [_] | [_, _] => rfl
  | _ :: _ :: _ :: _ => simp [readU24, readU16, readU8, more]; omega
theorem readU32_succ (b : Bytes) : readU32 b = (readU24 b).bind more := by
  match b with
  | [] | [_] | [_, _] | [_, _, _] => rfl
  | _ :: _ :: _ :: _ :: _ => simp [readU32, readU24, readU8, more]; omega

@[simp] theorem readU8_u8 {n : Nat} (h : n < 256) (r : Bytes) :
    readU8 (u8 n ++ r) = some (n, r) := by
  simp [u8, readU8, ofNat_toNat_lt h]

theorem readU8_inv {b rest : Bytes} {n : Nat} (h : readU8 b = some (n, rest)) :
    b = u8 n ++ rest ∧ n < 256 := by
  match b, h with
  | a :: r, h =>
    obtain ⟨rfl, rfl⟩ : a.toNat = n ∧ r = rest := by simpa [readU8] using h
    exact ⟨by simp [u8], a.toNat_lt⟩

section
variable {rd : Bytes → Option (Nat × Bytes)} {w : Nat → Bytes} {B : Nat}

theorem succ_spec (hrd : ∀ {m}, m < B → ∀ r, rd (w m ++ r) = some (m, r)) {n : Nat}
    (h : n < B * 256) (r : Bytes) : (rd (w (n / 256) ++ u8 n ++ r)).bind more = some (n, r) := by
  rw [List.append_assoc, hrd (by omega)]
  simp [more, u8, readU8, UInt8.toNat_ofNat']; omega

theorem succ_inv (hrd : ∀ {b m r}, rd b = some (m, r) → b = w m ++ r ∧ m < B) {b rest : Bytes}
    {n : Nat} (h : (rd b).bind more = some (n, rest)) :
    b = w (n / 256) ++ u8 n ++ rest ∧ n < B * 256 := by
  obtain ⟨⟨m, r⟩, h1, h2⟩ := Option.bind_eq_some_iff.mp h
  obtain ⟨⟨d, r'⟩, h3, h4⟩ := Option.map_eq_some_iff.mp h2
  obtain ⟨rfl, hm⟩ := hrd h1
  obtain ⟨rfl, hd⟩ := readU8_inv h3
  obtain ⟨rfl, rfl⟩ : m * 256 + d = n ∧ r' = rest := by simpa using h4
  rw [show (m * 256 + d) / 256 = m by omega,
    show u8 (m * 256 + d) = u8 d by simp [u8]]
  exact ⟨(List.append_assoc ..).symm, by omega⟩

theorem inj_of_spec (hrd : ∀ {m}, m < B → ∀ r, rd (w m ++ r) = some (m, r)) {a b : Nat}
    (ha : a < B) (hb : b < B) (h : w a = w b) : a = b := by
  have := hrd ha []
  rw [h, hrd hb []] at this
  exact (Prod.mk.inj (Option.some.inj this)).1.symm

end

@[simp] theorem readU16_u16 {n : Nat} (h : n < 65536) (r : Bytes) :
    readU16 (u16 n ++ r) = some (n, r) := by
  rw [u16_succ, readU16_succ]; exact succ_spec readU8_u8 h r

@[simp] theorem readU24_u24 {n : Nat} (h : n < 16777216) (r : Bytes) :
    readU24 (u24 n ++ r) = some (n, r) := by
  rw [u24_succ, readU24_succ]; exact succ_spec readU16_u16 h r

@[simp] theorem readU32_u32 {n : Nat} (h : n < 4294967296) (r : Bytes) :
    readU32 (u32 n ++ r) = some (n, r) := by
  rw [u32_succ, readU32_succ]; exact succ_spec readU24_u24 h r

theorem readU16_inv {b rest : Bytes} {n : Nat} (h : readU16 b = some (n, rest)) :
    b = u16 n ++ rest ∧ n < 65536 := by
  rw [u16_succ]; exact succ_inv readU8_inv (readU16_succ b ▸ h)

theorem readU24_inv {b rest : Bytes} {n : Nat} (h : readU24 b = some (n, rest)) :
    b = u24 n ++ rest ∧ n < 16777216 := by
  rw [u24_succ]; exact succ_inv readU16_inv (readU24_succ b ▸ h)

theorem readU32_inv {b rest : Bytes} {n : Nat} (h : readU32 b = some (n, rest)) :
    b = u32 n ++ rest ∧ n < 4294967296 := by
  rw [u32_succ]; exact succ_inv readU24_inv (readU32_succ b ▸ h)

theorem readN_append' {n : Nat} (x r : Bytes) (h : x.length = n) : readN n (x ++ r) = some (x, r) := by
  subst h
  simp [readN]

@[simp] theorem readN_append (x r : Bytes) : readN x.length (x ++ r) = some (x, r) :=
  readN_append' x r rfl

theorem readN_inv {n : Nat} {b x rest : Bytes} (h : readN n b = some (x, rest)) :
    b = x ++ rest ∧ x.length = n := by
  unfold readN at h
  split at h
  · obtain ⟨rfl, rfl⟩ : b.take n = x ∧ b.drop n = rest := by simpa using h
    simp [List.take_append_drop]; omega
  · simp at h

theorem readLP8_eq (b : Bytes) : readLP8 b = (readU8 b).bind fun p => readN p.1 p.2 := by
  unfold readLP8; cases readU8 b <;> rfl
theorem readLP16_eq (b : Bytes) : readLP16 b = (readU16 b).bind fun p => readN p.1 p.2 := by
  unfold readLP16; cases readU16 b <;> rfl
theorem readLP24_eq (b : Bytes) : readLP24 b = (readU24 b).bind fun p => readN p.1 p.2 := by
  unfold readLP24; cases readU24 b <;> rfl

section
variable {rd : Bytes → Option (Nat × Bytes)} {w : Nat → Bytes} {B : Nat}

theorem lp_eq_some {x e : Bytes}
    (h : (if x.length < B then some (w x.length ++ x) else none) = some e) :
    x.length < B ∧ e = w x.length ++ x := by
  split at h
  · exact ⟨‹_›, (Option.some.inj h).symm⟩
  · cases h

theorem lp_spec (hrd : ∀ {m}, m < B → ∀ r, rd (w m ++ r) = some (m, r)) {x e : Bytes}
    (h : (if x.length < B then some (w x.length ++ x) else none) = some e) (r : Bytes) :
    ((rd (e ++ r)).bind fun p => readN p.1 p.2) = some (x, r) := by
  obtain ⟨hl, rfl⟩ := lp_eq_some h
  simp [List.append_assoc, hrd hl, readN]

theorem lp_inv (hrd : ∀ {b m r}, rd b = some (m, r) → b = w m ++ r ∧ m < B) {b x rest : Bytes}
    (h : ((rd b).bind fun p => readN p.1 p.2) = some (x, rest)) :
    b = w x.length ++ x ++ rest ∧ x.length < B := by
  obtain ⟨⟨n, r⟩, h1, h2⟩ := Option.bind_eq_some_iff.mp h
  obtain ⟨rfl, hn⟩ := hrd h1
  obtain ⟨rfl, rfl⟩ := readN_inv h2
  exact ⟨(List.append_assoc ..).symm, hn⟩

end

theorem lp8_of {x : Bytes} (h : x.length < 256) : lp8 x = some (u8 x.length ++ x) := if_pos h
theorem lp16_of {x : Bytes} (h : x.length < 65536) : lp16 x = some (u16 x.length ++ x) := if_pos h
theorem lp24_of {x : Bytes} (h : x.length < 16777216) : lp24 x = some (u24 x.length ++ x) := if_pos h

theorem lp8_ok {x e : Bytes} (h : lp8 x = some e) : x.length < 256 ∧ e = u8 x.length ++ x :=
  lp_eq_some h

theorem lp16_ok {x e : Bytes} (h : lp16 x = some e) : x.length < 65536 ∧ e = u16 x.length ++ x :=
  lp_eq_some h

theorem lp24_ok {x e : Bytes} (h : lp24 x = some e) :
    x.length < 16777216 ∧ e = u24 x.length ++ x :=
  lp_eq_some h

theorem readLP8_lp8 {x e : Bytes} (h : lp8 x = some e) (r : Bytes) :
    readLP8 (e ++ r) = some (x, r) :=
  readLP8_eq _ ▸ lp_spec readU8_u8 h r

theorem readLP16_lp16 {x e : Bytes} (h : lp16 x = some e) (r : Bytes) :
    readLP16 (e ++ r) = some (x, r) :=
  readLP16_eq _ ▸ lp_spec readU16_u16 h r

theorem readLP24_lp24 {x e : Bytes} (h : lp24 x = some e) (r : Bytes) :
    readLP24 (e ++ r) = some (x, r) :=
  readLP24_eq _ ▸ lp_spec readU24_u24 h r

/-- the right-nested form, which is what `simp only [List.append_assoc]` leaves behind -/
theorem readLP8_append {x : Bytes} (h : x.length < 256) (r : Bytes) :
    readLP8 (u8 x.length ++ (x ++ r)) = some (x, r) :=
  List.append_assoc .. ▸ readLP8_lp8 (lp8_of h) r

theorem readLP16_append {x : Bytes} (h : x.length < 65536) (r : Bytes) :
    readLP16 (u16 x.length ++ (x ++ r)) = some (x, r) :=
  List.append_assoc .. ▸ readLP16_lp16 (lp16_of h) r

theorem readLP8_inv {b x rest : Bytes} (h : readLP8 b = some (x, rest)) :
    b = u8 x.length ++ x ++ rest ∧ x.length < 256 :=
  lp_inv readU8_inv (readLP8_eq b ▸ h)

theorem readLP16_inv {b x rest : Bytes} (h : readLP16 b = some (x, rest)) :
    b = u16 x.length ++ x ++ rest ∧ x.length < 65536 :=
  lp_inv readU16_inv (readLP16_eq b ▸ h)

theorem readLP24_inv {b x rest : Bytes} (h : readLP24 b = some (x, rest)) :
    b = u24 x.length ++ x ++ rest ∧ x.length < 16777216 :=
  lp_inv readU24_inv (readLP24_eq b ▸ h)

theorem u16_inj {a b : Nat} (ha : a < 65536) (hb : b < 65536) (h : u16 a = u16 b) : a = b :=
  inj_of_spec readU16_u16 ha hb h

theorem u24_inj {a b : Nat} (ha : a < 16777216) (hb : b < 16777216) (h : u24 a = u24 b) : a = b :=
  inj_of_spec readU24_u24 ha hb h

theorem readU8_len {b r : Bytes} {n : Nat} (h : readU8 b = some (n, r)) : b.length = r.length + 1 := by
  have := (readU8_inv h).1; subst this; simp [u8]
theorem readU16_len {b r : Bytes} {n : Nat} (h : readU16 b = some (n, r)) : b.length = r.length + 2 := by
  have := (readU16_inv h).1; subst this; simp [u16]
theorem readU24_len {b r : Bytes} {n : Nat} (h : readU24 b = some (n, r)) : b.length = r.length + 3 := by
  have := (readU24_inv h).1; subst this; simp [u24]
theorem readU32_len {b r : Bytes} {n : Nat} (h : readU32 b = some (n, r)) : b.length = r.length + 4 := by
  have := (readU32_inv h).1; subst this; simp [u32]
theorem readN_len {n : Nat} {b x r : Bytes} (h : readN n b = some (x, r)) : b.length = n + r.length := by
  obtain ⟨h1, h2⟩ := readN_inv h; subst h1; simp [h2]
theorem readLP8_len {b x r : Bytes} (h : readLP8 b = some (x, r)) : b.length = 1 + x.length + r.length := by
  have := (readLP8_inv h).1; subst this; simp [u8]; omega
theorem readLP16_len {b x r : Bytes} (h : readLP16 b = some (x, r)) : b.length = 2 + x.length + r.length := by
  have := (readLP16_inv h).1; subst this; simp [u16]; omega

end Wire
