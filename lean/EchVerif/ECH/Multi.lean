import EchVerif.ECH.Ops
/-
  A process serving several connections: one `Sys` (Conn state + transport) per connection id, and an
  arbitrary interleaving of operations, each addressed to one connection. The model has no state shared
  between connections (the code has none either: no package-level variable of `ech.go`, `tls.go`,
  `client_hello.go` is written after initialisation) - `Props/C07` proves that an interleaved run then
  decomposes into independent single-connection runs, which is what the harness's interleaved-sessions
  stream compares the implementation with.
-/
open Wire TLS
namespace ECH

abbrev Multi := Nat → Sys

def Multi.set (m : Multi) (i : Nat) (s : Sys) : Multi := fun j => if j = i then s else m j

/-- one operation of the interleaving: on connection `i`, `op` -/
def mstep (H : Hpke) (m : Multi) (x : Nat × Op) : Multi × (Nat × Obs) :=
  (m.set x.1 (stepOp H (m x.1) x.2).1, (x.1, (stepOp H (m x.1) x.2).2))

def mrun (H : Hpke) : Multi → List (Nat × Op) → Multi × List (Nat × Obs)
  | m, [] => (m, [])
  | m, x :: xs =>
    let r := mstep H m x
    let rest := mrun H r.1 xs
    (rest.1, r.2 :: rest.2)

/-- the operations of an interleaving that are addressed to connection `i`, in order -/
def opsOf (i : Nat) (xs : List (Nat × Op)) : List Op :=
  xs.filterMap (fun x => if x.1 = i then some x.2 else none)

/-- the observations made on connection `i`, in order -/
def obsOf (i : Nat) (os : List (Nat × Obs)) : List Obs :=
  os.filterMap (fun x => if x.1 = i then some x.2 else none)

end ECH
