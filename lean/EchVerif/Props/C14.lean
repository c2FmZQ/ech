import EchVerif.Resolve.Resolve
/-
  C14 — Resolve follows RFC 9460 and uses only answers that belong to the name asked.
-/
namespace Resolve

def httpsScheme : Bytes := "https".toUTF8.toList

/-- RFC 9460 2.3 / 9.1: the HTTPS query name. For the https (or http, mapped to https) scheme on
    port 80/443 it is the host itself; for any other port it is `_port._scheme.host`; for another
    scheme on a default port the package uses `_scheme.host` (RFC 9460 allows that form). -/
theorem C14_qnames (p : Parsed) :
    ((p.port = 80 ∨ p.port = 443) ∧ p.scheme = httpsScheme → svcbName p = p.name) ∧
    (p.port ≠ 80 ∧ p.port ≠ 443 → svcbName p = [95] ++ decimal p.port ++ [46, 95] ++ p.scheme ++ [46] ++ p.name) ∧
    ((p.port = 80 ∨ p.port = 443) ∧ p.scheme ≠ httpsScheme → svcbName p = [95] ++ p.scheme ++ [46] ++ p.name) := by
  unfold svcbName httpsScheme
  refine ⟨fun ⟨h1, h2⟩ => ?_, fun h => if_pos h, fun ⟨h1, h2⟩ => ?_⟩
  · rw [if_neg (fun h => h1.elim h.1 h.2), if_neg (not_not_intro h2)]
  · rw [if_neg (fun h => h1.elim h.1 h.2), if_pos h2]

/-- Over-long names (a label above 63 bytes or more than 255 bytes in total, in the host or in the
    constructed `_port._scheme.` name) are refused with ErrInvalidName before any query is sent —
    the model is total, so "no panic" is by construction. -/
theorem C14_invalid_name (U : Universe) (p : Parsed) (hl : p.isLocalhost = false) (hip : p.ip = none)
    (hbad : labelsOk p.name = false ∨ labelsOk (svcbName p) = false) :
    (resolve U p).err = some .invalidName ∧ (resolve U p).s = [] := by
  unfold resolve resolveWith
  simp only [hl, Bool.false_eq_true, if_false, hip]
  rcases hbad with h | h
  · simp [h]
  · by_cases h1 : labelsOk p.name = true
    · simp [h1, h]
    · simp [h1]

/-- the name reached from `want` by the CNAME records of `pre` (owner match, in order) -/
def chase : List Ans → Bytes → Bytes
  | [], want => want
  | a :: as, want =>
    match a.data with
    | .name n => if trimDot a.owner = want ∧ a.typ = 5 then chase as (trimDot n) else chase as want
    | _ => chase as want

/-- Only records that belong to the name asked are used: every datum returned for (name, type)
    comes from an answer record of that type whose owner is the queried name or the name reached from
    it through the CNAME records PRECEDING it in that same answer section. Records owned by any
    other name — however many, wherever placed — are never used. -/
theorem C14_owner (typ : Nat) (answers : List Ans) (want : Bytes) (x : AData)
    (hx : x ∈ walk typ answers want) :
    ∃ pre a post, answers = pre ++ a :: post ∧ a.data = x ∧ a.typ = typ ∧ trimDot a.owner = chase pre want := by
  induction answers generalizing want with
  | nil => simp [walk] at hx
  | cons a as ih =>
    simp only [walk, List.mem_append] at hx
    rcases hx with hx | hx
    · split at hx
      · rename_i hc
        simp at hx
        exact ⟨[], a, as, rfl, hx.symm, hc.2, by simpa [chase] using hc.1⟩
      · simp at hx
    · obtain ⟨pre, b, post, h1, h2, h3, h4⟩ := ih _ hx
      refine ⟨a :: pre, b, post, by simp [h1], h2, h3, ?_⟩
      rw [h4]
      simp only [chase]
      cases hd : a.data with
      | name n => simp only; split <;> rfl
      | ip b => rfl
      | https h => rfl
      | other => rfl

/-- … and the lookup as a whole: data, or the documented error for response codes 1..5. -/
theorem C14_rcode (U : Universe) (name : Bytes) (typ rc : Nat) (as : List Ans) (hU : U (trimDot name) typ = .msg rc as) :
    (rc = 0 → resolveOneNC U name typ = .ok (walk typ as (trimDot name), minTTL as)) ∧
    (rc = 1 → resolveOneNC U name typ = .error .format) ∧ (rc = 2 → resolveOneNC U name typ = .error .servfail) ∧
    (rc = 3 → resolveOneNC U name typ = .error .nxdomain) ∧ (rc = 4 → resolveOneNC U name typ = .error .notimp) ∧
    (rc = 5 → resolveOneNC U name typ = .error .refused) := by
  unfold resolveOneNC
  simp only [hU]
  refine ⟨?_, ?_, ?_, ?_, ?_, ?_⟩ <;> (intro h; subst h; rfl)

/-- NXDOMAIN on the HTTPS lookup is absence, not an error: the walk ends with no HTTPS records. -/
theorem C14_nxdomain_is_absence (U : Universe) (name want : Bytes) (seen : List Bytes) (log : Log) (fuel : Nat)
    (hs : seen.contains want = false) (hl : (want :: seen).length < 5)
    (hU : resolveOneNC U want 65 = .error .nxdomain) :
    aliasLoop (lookupNC U) name (fuel + 1) want seen log = .ok (want, [], log ++ [(want, 65)]) := by
  have hlk : lookupNC U log want 65 = (.error .nxdomain, log ++ [(want, 65)]) := by
    unfold lookupNC
    rw [hU]
  rw [aliasLoop, if_neg ((Bool.not_eq_true _).mpr hs), if_neg (Nat.not_le.mpr hl), hlk]
  rfl

def aliasLog : Except (RErr × Log) (Bytes × List HttpsRec × Log) → Log
  | .ok (_, _, l) => l
  | .error (_, l) => l

theorem lookupNC_eq (U : Universe) (log : Log) (name : Bytes) (typ : Nat) :
    ∃ r, lookupNC U log name typ = (r, log ++ [(name, typ)]) := by
  unfold lookupNC
  split <;> exact ⟨_, rfl⟩

/-- `l'` is `l` followed by HTTPS questions for pairwise distinct names outside `seen`, at most
    4 − |seen| of them (`asked = []` is what that means once `seen` holds more than 4 names) -/
def Asked (seen : List Bytes) (l l' : Log) : Prop :=
  ∃ asked, l' = l ++ asked.map (fun n => (n, 65)) ∧
    (asked = [] ∨ asked.length + seen.length ≤ 4) ∧ (asked ++ seen).Nodup

theorem Asked.refl {seen : List Bytes} (hn : seen.Nodup) (l : Log) : Asked seen l l :=
  ⟨[], (List.append_nil l).symm, .inl rfl, hn⟩

theorem Asked.cons {want : Bytes} {seen : List Bytes} {l l' : Log} (hl : seen.length < 4)
    (h : Asked (want :: seen) (l ++ [(want, 65)]) l') : Asked seen l l' := by
  obtain ⟨asked, h1, h2, h3⟩ := h
  refine ⟨want :: asked, by rw [h1, List.append_assoc]; rfl, .inr ?_, List.perm_middle.nodup_iff.mp h3⟩
  rw [List.length_cons]
  rcases h2 with rfl | h2
  · rw [List.length_nil]
    omega
  · rw [List.length_cons] at h2
    omega

/-- The alias walk is bounded and loop-free: starting from `seen` already-visited names it asks at
    most 4 − |seen| further HTTPS questions (4 in total for a whole Resolve), all for names it has
    not asked about before, and nothing else is queried. -/
theorem C14_alias (U : Universe) (name : Bytes) :
    ∀ (fuel : Nat) (want : Bytes) (seen : List Bytes) (log : Log), seen.Nodup →
      ∃ asked, aliasLog (aliasLoop (lookupNC U) name fuel want seen log) = log ++ asked.map (fun n => (n, 65)) ∧
        (asked = [] ∨ asked.length + seen.length ≤ 4) ∧ (asked ++ seen).Nodup := by
  intro fuel
  induction fuel with
  | zero => exact fun _ _ log hn => Asked.refl hn log
  | succ k ih =>
    intro want seen log hn
    show Asked seen log _
    rw [aliasLoop]
    by_cases hc : seen.contains want = true
    · rw [if_pos hc]
      exact .refl hn log
    by_cases hl : (want :: seen).length ≥ 5
    · rw [if_neg hc, if_pos hl]
      exact .refl hn log
    rw [if_neg hc, if_neg hl]
    have hnd : (want :: seen).Nodup := List.nodup_cons.mpr ⟨fun hm => hc (List.contains_iff_mem.mpr hm), hn⟩
    have hl : seen.length < 4 := Nat.lt_of_succ_lt_succ (Nat.lt_of_not_le hl)
    obtain ⟨r, hr⟩ := lookupNC_eq U log want 65
    rw [hr]
    have one : Asked seen log (log ++ [(want, 65)]) := .cons hl (.refl hnd _)
    -- `rcases` + `dsimp only` rather than `split`: far cheaper on a match over a pair
    rcases r with e | ds <;> dsimp only
    · split <;> exact one
    · rcases dataHttps ds with _ | ⟨v, rest⟩ <;> dsimp only
      · exact one
      · by_cases h0 : v.priority = 0 ∧ v.target = []
        · rw [if_pos h0]
          exact one
        by_cases hp : v.priority = 0
        · rw [if_neg h0, if_pos hp]
          exact .cons hl (ih v.target (want :: seen) _ hnd)
        · rw [if_neg h0, if_neg hp]
          exact one

theorem resolveTarget_log (U : Universe) (add : List (Bytes × List IP)) (log : Log) (name : Bytes) :
    (resolveTarget (lookupNC U) add log name).2.length ≤ log.length + 2 := by
  unfold resolveTarget
  by_cases hk : add.any (·.1 = name)
  · rw [if_pos hk]
    exact Nat.le_add_right ..
  · obtain ⟨r1, h1⟩ := lookupNC_eq U log name 1
    obtain ⟨r2, h2⟩ := lookupNC_eq U (log ++ [(name, 1)]) name 28
    rw [if_neg hk, h1]
    cases r1 <;> dsimp only
    · simp
    · rw [h2]
      cases r2 <;> simp

/-- Bounded work: the whole of Resolve sends at most 4 HTTPS questions, then two address questions
    per distinct service target, then two for the name itself. -/
theorem C14_targets_bounded (U : Universe) (hs : List HttpsRec) (add : List (Bytes × List IP)) (log : Log) :
    (targetsLoop (lookupNC U) hs add log).2.length ≤ log.length + 2 * (hs.filter (fun h => h.priority ≠ 0 ∧ h.target ≠ [])).length := by
  induction hs generalizing add log with
  | nil => exact Nat.le_add_right ..
  | cons h hs ih =>
    rw [targetsLoop, List.filter_cons]
    by_cases hc : h.priority ≠ 0 ∧ h.target ≠ []
    · rw [if_pos hc, if_pos (decide_eq_true hc), List.length_cons]
      refine Nat.le_trans (ih _ _) ?_
      have := resolveTarget_log U add log h.target
      omega
    · rw [if_neg hc, if_neg (mt of_decide_eq_true hc)]
      exact ih add log

theorem insertByPrio_perm (h : HttpsRec) (l : List HttpsRec) : (insertByPrio h l).Perm (h :: l) := by
  induction l with
  | nil => exact .refl _
  | cons x xs ih =>
    simp only [insertByPrio]
    split
    · exact .refl _
    · exact (ih.cons x).trans (.swap h x xs)

theorem insertByPrio_sorted (h : HttpsRec) (l : List HttpsRec) (hl : l.Pairwise (fun a b => a.priority ≤ b.priority)) :
    (insertByPrio h l).Pairwise (fun a b => a.priority ≤ b.priority) := by
  induction l with
  | nil => simp [insertByPrio]
  | cons x xs ih =>
    rw [List.pairwise_cons] at hl
    simp only [insertByPrio]
    split
    · rename_i hle
      exact List.pairwise_cons.mpr
        ⟨List.forall_mem_cons.mpr ⟨hle, fun y hy => Nat.le_trans hle (hl.1 y hy)⟩, List.pairwise_cons.mpr hl⟩
    · refine List.pairwise_cons.mpr ⟨fun y hy => ?_, ih hl.2⟩
      rcases List.mem_cons.mp ((insertByPrio_perm h xs).mem_iff.mp hy) with rfl | hy
      · omega
      · exact hl.1 y hy

/-- Service records are returned ordered by priority, and sorting only permutes them. -/
theorem C14_sorted (hs : List HttpsRec) :
    (sortByPrio hs).Perm hs ∧ (sortByPrio hs).Pairwise (fun a b => a.priority ≤ b.priority) := by
  induction hs with
  | nil => simp [sortByPrio]
  | cons h hs ih =>
    exact ⟨(insertByPrio_perm h _).trans (ih.1.cons h), insertByPrio_sorted h _ ih.2⟩

end Resolve
