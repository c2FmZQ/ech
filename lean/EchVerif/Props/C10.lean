import EchVerif.Ctx.Lts
/-
  C10 — the NewConn context governs only the initial read.
-/
namespace Ctx

/-- main is past the join with the watcher -/
def MainPc.joined : MainPc → Bool
  | .clearing | .returning _ | .returned _ => true
  | _ => false

/-- main reports success -/
def MainPc.ok : MainPc → Bool
  | .returning b | .returned b => b
  | _ => false

/-- only the watcher's firing sets a deadline, and main reports success only with the watcher gone
    and no deadline in force -/
structure Inv (s : St) : Prop where
  bad : s.badEvent = false
  fired : s.deadlineSet = true → s.w = .sendTrue ∨ s.w = .exited
  joined : s.main.joined = true → s.w = .exited
  ok : s.main.ok = true → s.deadlineSet = false

theorem inv_init : Inv init := ⟨rfl, nofun, nofun, nofun⟩

theorem inv_step (s s' : St) (l : Label) (h : Inv s) (hs : step s l = some s') : Inv s' := by
  -- until the watcher has fired or exited, main has not joined it and no deadline is set
  have early : ∀ {x : WPc}, s.w = x → x ≠ .exited → s.main.joined = false := fun hw hne =>
    Bool.eq_false_iff.mpr fun hm => hne (hw ▸ h.joined hm)
  have unset : ∀ {x : WPc}, s.w = x → x ≠ .sendTrue → x ≠ .exited → s.deadlineSet = false := fun hw h1 h2 =>
    Bool.eq_false_iff.mpr fun hd => (h.fired hd).elim (fun h => h1 (hw ▸ h)) (fun h => h2 (hw ▸ h))
  have stay : ∀ {x y : WPc}, s.w = x → x ≠ .sendTrue → x ≠ .exited → Inv { s with w := y } :=
    fun hw h1 h2 => ⟨h.bad, fun hd => (nomatch (unset hw h1 h2).symm.trans hd),
      fun hm => (nomatch (early hw h2).symm.trans hm), h.ok⟩
  have okj : s.main.ok = true → s.main.joined = true := by cases s.main <;> simp [MainPc.ok, MainPc.joined]
  revert hs
  -- the branches of `step`, in order; those returning `none` close at once
  fun_cases step s l <;> rintro ⟨⟩
  case case2 | case4 => exact ⟨h.bad, h.fired, h.joined, h.ok⟩   -- helloArrives, ctxCancel
  case case5 | case7 | case9 | case11 => exact ⟨h.bad, h.fired, nofun, nofun⟩   -- mainReadOk/Err, mainProcessOk/Err
  -- recvExited: only `joinOk` with `sendFalse` goes straight on to `returning true`
  case case13 | case15 | case16 => exact ⟨h.bad, fun _ => .inr rfl, fun _ => rfl, nofun⟩
  case case14 hw _ => exact ⟨h.bad, fun _ => .inr rfl, fun _ => rfl, fun _ => unset hw nofun nofun⟩
  case case18 hm => -- mainClear
    exact ⟨h.bad, nofun, fun _ => h.joined (by rw [hm]; rfl), fun _ => rfl⟩
  case case20 ok hm => -- mainReturn
    exact ⟨h.bad, h.fired, fun _ => h.joined (by rw [hm]; rfl), fun ho => h.ok (by rw [hm]; exact ho)⟩
  case case22 hw => exact stay hw nofun nofun   -- wStart
  case case24 hw | case26 hw => exact stay hw.1 nofun nofun   -- wPickDone, wPickCtx
  case case28 hw => -- wFire
    have hj := early hw nofun
    refine ⟨?_, fun _ => .inl rfl, fun hm => (nomatch hj.symm.trans hm), fun ho => (nomatch hj.symm.trans (okj ho))⟩
    -- the deadline event: main cannot have returned, it would have joined the watcher
    rw [h.bad, Bool.false_or, beq_eq_false_iff_ne]
    intro hm; rw [hm] at hj; cases hj

theorem run_inv (s s' : St) (ls : List Label) (h : Inv s) (hr : run s ls = some s') : Inv s' := by
  induction ls generalizing s with
  | nil => cases hr; exact h
  | cons l ls ih =>
    rw [run] at hr
    split at hr
    · cases hr
    · exact ih _ (inv_step s _ l h ‹_›) hr

/-- For EVERY schedule of main goroutine, watcher goroutine and environment (hello arrival and
    context cancellation at any moment, `select` resolved either way when both cases are ready):
    no SetDeadline is ever applied after NewConn has returned successfully, and at a successful
    return no deadline set on behalf of the context is in force and the watcher has exited — so
    cancelling or expiring the context afterwards cannot affect the connection. -/
theorem C10_no_effect_after_return (ls : List Label) (s : St) (hr : run init ls = some s) :
    s.badEvent = false ∧ (s.main = .returned true → s.deadlineSet = false ∧ s.w = .exited) := by
  have hi := run_inv init s ls inv_init hr
  exact ⟨hi.bad, fun h => ⟨hi.ok (by rw [h]; rfl), hi.joined (by rw [h]; rfl)⟩⟩

/-- Once the watcher has exited nothing it could do remains: no label of the watcher is enabled
    (the context's only handle on the connection is gone). -/
theorem C10_watcher_gone (s : St) (h : s.w = .exited) :
    step s .wStart = none ∧ step s .wPickDone = none ∧ step s .wPickCtx = none ∧ step s .wFire = none := by
  simp [step, h]

/-- Prompt failure: if the context ends while NewConn is blocked in the initial read (no hello),
    then from every such reachable state the system can always move, without any help from the
    client, through at most five steps to `returned false`; nothing else is enabled for main. -/
theorem C10_prompt_failure (s : St) (hm : s.main = .reading) (hc : s.ctxDone = true) (hw : s.w ≠ .exited)
    (hsf : s.w ≠ .sendFalse) (hst : s.w = .sendTrue → s.deadlineSet = true) :
    ∃ sched, sched.length ≤ 6 ∧ (run s sched).map (·.main) = some (.returned false) := by
  obtain ⟨main, w, ha, cd, dc, ds, be⟩ := s
  subst hm; subst hc
  cases w with
  | notStarted => exact ⟨[.wStart, .wPickCtx, .wFire, .mainReadErr, .recvExited, .mainReturn], by decide, rfl⟩
  | selecting => exact ⟨[.wPickCtx, .wFire, .mainReadErr, .recvExited, .mainReturn], by decide, rfl⟩
  | firing => exact ⟨[.wFire, .mainReadErr, .recvExited, .mainReturn], by decide, rfl⟩
  | sendTrue =>
    have := hst rfl
    subst this
    exact ⟨[.mainReadErr, .recvExited, .mainReturn], by decide, rfl⟩
  | sendFalse => exact absurd rfl hsf
  | exited => exact absurd rfl hw

/-- The property is FALSE of the code as it was (watcher not joined before returning): with the
    join removed — main returns as soon as it has closed `done` — this schedule sets the deadline
    after a successful return. Kept as the machine-checked counterexample for the defect fixed in
    /repo (see KNOWN_FINDINGS). -/
def stepOld (s : St) : Label → Option St
  | .mainProcessOk => if s.main = .processing then some { s with main := .returning true, doneClosed := true } else none
  | .wPickDone => if s.w = .selecting ∧ s.doneClosed then some { s with w := .exited } else none
  | .wFire => if s.w = .firing then
      some { s with w := .exited, deadlineSet := true, badEvent := s.badEvent || (s.main == .returned true) } else none
  | l => step s l

def runOld : St → List Label → Option St
  | s, [] => some s
  | s, l :: ls => match stepOld s l with
    | none => none
    | some s' => runOld s' ls

theorem C10_old_code_violates :
    ∃ sched s, runOld init sched = some s ∧ s.badEvent = true ∧ s.main = .returned true :=
  ⟨[.helloArrives, .mainReadOk, .mainProcessOk, .mainReturn, .ctxCancel, .wStart, .wPickCtx, .wFire], _, rfl, rfl, rfl⟩

end Ctx
