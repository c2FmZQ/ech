import EchVerif.Lemmas.Pipe
import EchVerif.Lemmas.Hello
/-
  C06 — only a HelloRetryRequest re-arms ECH processing, under the retry rules.
-/
open Wire TLS
namespace ECH

/-- The invariant holds in every state reachable from a successful NewConn by ANY interleaving of
    Read, Write and arriving client data. (retry ≥ 1 only on accepted connections whose write side
    has stopped inspecting; the HPKE sequence number is 1 after NewConn and 2 only once the read
    side is in passthrough; connections without an inner hello hold no HPKE context.) -/
theorem C06_inv_all_reachable (H : Hpke) (keys : List Key) (t : Tr) (ops : List Op)
    (hok : (newConn H keys t).err = none) :
    Inv (runOps H ⟨(newConn H keys t).st, (newConn H keys t).tr⟩ ops).1.st := by
  refine (runOps_induct H (P := fun s => Inv s.st) (Q := fun _ => True) (fun s op h => ⟨?_, trivial⟩) ops ⟨_, _⟩
    (inv_newConn hok)).1
  cases op with
  | read n => exact inv_read H s.tr n h
  | write b => exact inv_write s.tr b h
  | feed cs => exact h

/-- The retry counter moves only when a written record is a ServerHello whose random is the
    HelloRetryRequest magic value. -/
theorem C06_only_hrr_rearms (fuel blen : Nat) (st : St) (t : Tr)
    (h : (writeLoop fuel blen st t).st.retry ≠ st.retry) :
    ∃ record, record.head? = some 22 ∧ msgTypeOf record = some 2 ∧
      parseServerHello (record.drop 5) = .ok true := by
  -- "the counter has not moved, or such a record was inspected" survives everything the loop does
  refine writeLoop_stable (P := fun s => s.retry ≠ st.retry → ∃ record : Bytes, record.head? = some 22 ∧
      msgTypeOf record = some 2 ∧ parseServerHello (record.drop 5) = .ok true)
    ⟨fun _ _ h => h, fun _ h => h, fun _ record h1 h2 h3 _ _ => ⟨record, h1, h2, h3⟩⟩
    fuel blen t (fun h => absurd rfl h) h

/-- A ClientHello met while the retry counter is not 1 (no HelloRetryRequest was written, or the
    write side was never inspected) is never decrypted: the HPKE state is untouched. -/
theorem C06_no_hrr_no_decrypt (H : Hpke) (st : St) (t : Tr) (n : Nat) (hr : st.retry ≠ 1) :
    (connRead H st t n).st.ctx = st.ctx ∧ (connRead H st t n).st.inner = st.inner := by
  rcases connRead_cases H st t n with h | ⟨_, _, _, _, _, _, _, ⟨_, hr1, _⟩ | ⟨_, h⟩⟩
  · simp [h, deliver_st] -- no record is read
  · exact absurd hr1 hr -- a retried hello
  · simp [h, deliver_st] -- a record

/-- At most one retry: once the read side is in passthrough — which processing a retried hello,
    successfully or not, and an application-data record both cause — no record is ever interpreted
    again: the HPKE context never changes and the read side stays in passthrough. -/
theorem C06_at_most_one_retry (H : Hpke) (st : St) (t : Tr) (n : Nat) (hpt : st.readPT = true) :
    (connRead H st t n).st.ctx = st.ctx ∧ (connRead H st t n).st.readPT = true ∧
    (connRead H st t n).tr.out = t.out := by
  have h : connRead H st t n = deliver n st t := by simp [connRead, hpt]
  rw [h]
  exact ⟨by simp [deliver_st], by simp [deliver_st, hpt], (deliver_pipe n st t).1.out⟩

/-- processing a retried hello always leaves the read side in passthrough -/
theorem C06_retry_sets_passthrough (H : Hpke) (n : Nat) (st : St) (t : Tr) (r : Bytes) :
    (readRetry H n st t r).st.readPT = true := by
  rcases readRetry_cases H n st t r with ⟨_, _, h⟩ | ⟨_, _, _, _, _, _, h, _⟩ <;> simp [h, deliver_st]

/-! draft 7.1.1: what a retried hello must satisfy, each rule with its alert class -/

theorem C06_retry_missing (H : Hpke) (st : St) (h : Hello) (he : h.d.ech = none) :
    process H st h true = .error .missing := by
  simp [process, retryPre, he]

theorem C06_retry_mismatch (H : Hpke) (st : St) (h : Hello) (e o : EchExt) (oh : Hello)
    (he : h.d.ech = some e) (ho : st.outer = some oh) (hoe : oh.d.ech = some o)
    (hm : o.configId ≠ e.configId ∨ o.kdf ≠ e.kdf ∨ o.aead ≠ e.aead ∨ e.enc.length > 0) :
    process H st h true = .error .illegal := by
  simp only [process, retryPre, he, ho, Option.bind_some, hoe, if_true]
  rw [if_pos hm]

theorem C06_retry_decrypt (H : Hpke) (st : St) (h : Hello) (e : EchExt)
    (hpre : retryPre st h = .ok ()) (he : h.d.ech = some e) (ht : h.d.tls13 = true) (hk : st.keys ≠ [])
    (hl : keyLoop H st h e st.keys = .next) :
    process H st h true = .error .decrypt := by
  have hk' : st.keys.isEmpty = false := by cases hks : st.keys <;> simp_all
  simp [process, hpre, processCore, he, ht, hk', hl]

theorem C06_retry_names (st : St) (i ci : Hello) (hci : st.inner = some ci)
    (hm : ci.d.serverName ≠ i.d.serverName ∨ ci.d.alpn ≠ i.d.alpn) :
    retryCheck st (some i) = .error .illegal := by
  simp only [retryCheck, hci]
  rw [if_pos]
  rcases hm with h | h
  · exact Or.inr (Or.inl h)
  · exact Or.inr (Or.inr h)

/-- a retried hello that passes every rule is replaced by the marshalling of its reconstructed
    inner hello (whose names equal the first inner hello's) -/
theorem C06_retry_replaced (H : Hpke) (n : Nat) (st : St) (t : Tr) (r : Bytes) (o i : Hello) (st2 : St) (buf : Bytes)
    (hh : handle H { st with readPT := true } r true = .ok (o, some i, st2)) (hm : i.marshal = .ok buf) :
    (readRetry H n st t r).data = buf.take n ∧
    ∃ ci, st.inner = some ci ∧ ci.d.serverName = i.d.serverName ∧ ci.d.alpn = i.d.alpn := by
  obtain ⟨_, ci, _, _, _, _, hi, _, _, _, _, hci, hn⟩ := handle_retry_ok hh
  cases hi
  refine ⟨?_, ci, hci, hn⟩
  -- a marshalled record is never empty, so `deliver` hands out its first `n` bytes
  have hb : buf ≠ [] := fun hb => by simpa [hb] using marshalRec_length hm
  simp [readRetry, hh, hm, deliver, hb]

end ECH
