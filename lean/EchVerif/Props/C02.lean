import EchVerif.Lemmas.Conn
import EchVerif.Lemmas.SpecRefine
/-
  C02 — ECH is accepted only for an authentic payload bound to the exact outer hello.
  HPKE is ideal (section 6 of DESIGN.md): `H.seals` lists the seals that exist; the theorems quantify
  over every such world, so "authentic" means "this exact seal was performed".
-/
open Wire TLS
namespace ECH

/-- Whenever the key loop opens a payload on a FIRST hello (no stored context), the world contains
    a seal made to a held key whose config id and cipher suite the client named, under the info
    string "tls ech\0" ‖ config, the hello's encapsulated key, sequence number 0, with the
    ClientHelloOuterAAD of exactly this hello as associated data and exactly this payload as
    ciphertext; and the outer SNI is that config's public name. -/
theorem C02_accept_sound (H : Hpke) (st : St) (h : Hello) (ech : EchExt) (pt : Bytes) (c : Ctx) (cfgb : Bytes)
    (hfirst : st.ctx = none) (hk : keyLoop H st h ech st.keys = .opened pt c cfgb) :
    ∃ k ∈ st.keys, ∃ cfg aad, configSpec k.config = some cfg ∧ cfg.id = ech.configId ∧
      (∃ cs ∈ cfg.suites, cs.kdf = ech.kdf ∧ cs.aead = ech.aead) ∧
      h.marshalAAD = .ok aad ∧ cfg.publicName = h.d.serverName ∧
      (∃ s ∈ H.seals, s.priv = k.priv ∧ s.kem = cfg.kem ∧ s.kdf = ech.kdf ∧ s.aead = ech.aead ∧
         s.info = "tls ech\x00".toUTF8.toList ++ k.config ∧ s.enc = ech.enc ∧ s.seq = 0 ∧
         s.aad = aad ∧ s.ct = ech.payload ∧ s.pt = pt) ∧
      c.seq = 1 ∧ cfgb = k.config := by
  obtain ⟨k, hkm, hto⟩ := keyLoop_mem hk nofun
  obtain ⟨cfg, c0, aad, hcfg, hid, hsu, _, hcand, haad, hopen, hpn, hc, hcb⟩ := tryKey_opened hto
  obtain ⟨rfl, _⟩ := candCtx_fresh hfirst hcand
  exact ⟨k, hkm, cfg, aad, hcfg, hid, by simpa using hsu, haad, hpn, open_some hopen, by rw [hc], hcb⟩

/-- Retried hello: the payload opens only under the context stored by the first acceptance, at the
    next sequence number, and only for the key that opened the first hello. -/
theorem C02_retry_sound (H : Hpke) (st : St) (h : Hello) (ech : EchExt) (pt : Bytes) (c c0 : Ctx) (cfgb : Bytes)
    (hctx : st.ctx = some c0) (hk : keyLoop H st h ech st.keys = .opened pt c cfgb) :
    ∃ aad, h.marshalAAD = .ok aad ∧ cfgb = st.ctxConfig ∧ c = { c0 with seq := c0.seq + 1 } ∧
      ∃ s ∈ H.seals, s.priv = c0.priv ∧ s.kem = c0.kem ∧ s.kdf = c0.kdf ∧ s.aead = c0.aead ∧
        s.info = c0.info ∧ s.enc = c0.enc ∧ s.seq = c0.seq ∧ s.aad = aad ∧ s.ct = ech.payload ∧ s.pt = pt := by
  obtain ⟨k, _, hto⟩ := keyLoop_mem hk nofun
  obtain ⟨cfg, c1, aad, _, _, _, hskip, hcand, haad, hopen, _, hc, hcb⟩ := tryKey_opened hto
  rw [candCtx_stored hctx] at hcand
  cases hcand
  -- with a stored context a key for another config is skipped
  have hcfgeq : st.ctxConfig = k.config := Decidable.byContradiction fun he => hskip ⟨by rw [hctx]; rfl, he⟩
  exact ⟨aad, haad, by rw [hcb, hcfgeq], hc, open_some hopen⟩

/-- Converse: if no seal in the world was made to any held key for exactly this AAD and payload,
    the hello is never accepted — whatever else it contains. (Every bit of the ClientHelloOuter body
    is either in the AAD or in the payload; see C02_aad_refines_spec.) -/
theorem C02_no_seal_no_accept (H : Hpke) (st : St) (h : Hello) (ech : EchExt)
    (hno : ∀ aad, h.marshalAAD = .ok aad → ∀ s ∈ H.seals, ¬ (s.aad = aad ∧ s.ct = ech.payload)) :
    ∀ pt c cfgb, keyLoop H st h ech st.keys ≠ .opened pt c cfgb := by
  intro pt c cfgb hk
  obtain ⟨k, _, hto⟩ := keyLoop_mem hk nofun
  obtain ⟨cfg, c1, aad, _, _, _, _, _, haad, hopen, _⟩ := tryKey_opened hto
  obtain ⟨s, hs, _, _, _, _, _, _, _, s8, s9, _⟩ := open_some hopen
  exact hno aad haad s hs ⟨s8, s9⟩

/-- The three outcome shapes of NewConn: abort (error, alert, nothing buffered — C04), or a usable
    connection that is either accepted (inner hello buffered) or transparent fall-back (outer hello
    buffered, both directions in passthrough). There is no fourth shape. -/
theorem C02_clean_fallback (H : Hpke) (keys : List Key) (t : Tr) :
    (newConn H keys t).err.isSome ∨
    ((newConn H keys t).err = none ∧ (newConn H keys t).st.accepted = true ∧
       ∃ i, (newConn H keys t).st.inner = some i ∧ i.marshal = .ok (newConn H keys t).st.readBuf) ∨
    ((newConn H keys t).err = none ∧ (newConn H keys t).st.accepted = false ∧
       (newConn H keys t).st.readPT = true ∧ (newConn H keys t).st.writePT = true) := by
  obtain ⟨_, _, _, ⟨_, _, hr, _⟩ | ⟨_, _, _, _, ⟨hr, _⟩ | ⟨i, _, _, hr, hm, _⟩⟩⟩ :=
    newConn_cases H keys t <;> rw [hr]
  · exact .inl rfl -- abort
  · exact .inr (.inr ⟨rfl, rfl, rfl, rfl⟩) -- passthrough
  · exact .inr (.inl ⟨rfl, rfl, i, rfl, hm⟩) -- accepted

/-- **ClientHelloOuterAAD refines the draft-level specification.** For every buffer the model parses
    as a ClientHello carrying an outer (type 0) ECH extension, the associated data the model feeds to
    HPKE (`marshalAAD`, i.e. `marshal(aad=true)[9:]` in the code) is exactly `Spec.aadSpec` of the
    ClientHello body as it came off the wire — the structure with the payload field of the ECH
    extension replaced by zeros of the same length (draft 5.2), computed on bytes by a definition
    written independently of client_hello.go. Hence the seals of C02_accept_sound / C02_retry_sound
    are bound to every byte of the outer hello other than the payload. -/
theorem C02_aad_refines_spec (buf : Bytes) (h : Hello) (e : EchExt) (a : Bytes)
    (hp : parseClientHello buf = .ok h) (he : h.d.ech = some e) (ht : e.typ = 0) (ha : h.marshalAAD = .ok a) :
    ∃ msg trail, buf = u8 1 ++ (u24 msg.length ++ msg) ++ trail ∧ Spec.aadSpec msg = some a := by
  -- `ht` is not needed: the refinement holds whatever ECH extension the hello carries
  obtain ⟨after, trail, hbuf, hs⟩ := marshalAAD_refines_spec hp (noExt_of_ech hp (by simp [he])) ha
  exact ⟨_, trail, hbuf, hs⟩

end ECH
