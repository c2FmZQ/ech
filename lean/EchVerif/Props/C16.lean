import EchVerif.Resolve.Resolve
import EchVerif.Lemmas.CacheLts
/-
  C16 — the resolver cache never serves stale answers and is safe under concurrency.
  `lookupCached` is one lock-protected critical section of `resolveOne` taken as an atomic step;
  the environment (clock advances, zone changes, upstream failures) chooses `now` and the universe
  `U` freely before every step. Data-race freedom itself is a Go memory-model fact (race detector).
-/
namespace Resolve

/-- cache invariant: every entry expires exactly `ttl` seconds after the fetch it came from, where
    `ttl` is the smallest TTL of that response, and there is at most one entry per (name, type) -/
structure CInv (c : CState) : Prop where
  expiry : ∀ e ∈ c.entries, e.expiry = e.fetchedAt + e.ttl
  past : ∀ e ∈ c.entries, e.fetchedAt ≤ c.now

section
variable {c : CState} {name : Bytes} {typ : Nat} {e : CEntry}

theorem find_some (h : c.find name typ = some e) : e ∈ c.entries ∧ e.name = name ∧ e.typ = typ := by
  unfold CState.find at h
  have hp := List.find?_some h
  simp only [decide_eq_true_eq] at hp
  exact ⟨List.mem_of_find?_eq_some h, hp.1, hp.2⟩

theorem mem_without (h : e ∈ c.without name typ) : e ∈ c.entries := (List.mem_filter.mp h).1

theorem CInv.of_entries (hi : CInv c) {es now up} (hnow : c.now ≤ now)
    (h : ∀ e ∈ es, e ∈ c.entries ∨ (e.expiry = e.fetchedAt + e.ttl ∧ e.fetchedAt ≤ now)) :
    CInv ⟨es, now, up⟩ :=
  ⟨fun e he => (h e he).elim (hi.expiry e) (·.1),
   fun e he => (h e he).elim (fun h' => Nat.le_trans (hi.past e h') hnow) (·.2)⟩

end

/-- Hit or miss. An expired entry and no entry at all are the same miss: with no entry `without`
    removes nothing. -/
theorem lookupCached_cases (U : Universe) (c : CState) (name : Bytes) (typ : Nat) :
    (∃ e, c.find name typ = some e ∧ c.now < e.expiry ∧ lookupCached U c name typ = (.ok e.res, c)) ∨
    lookupCached U c name typ =
      match resolveOneNC U name typ with
      | .error err => (.error err, ⟨c.without name typ, c.now, c.upstream ++ [(name, typ, c.now)]⟩)
      | .ok (ds, ttl) => (.ok ds, ⟨c.without name typ ++ [⟨name, typ, c.now + ttl, ds, c.now, ttl⟩], c.now,
          c.upstream ++ [(name, typ, c.now)]⟩) := by
  unfold lookupCached
  cases hf : c.find name typ with
  | none =>
    have : c.without name typ = c.entries := List.filter_eq_self.mpr fun x hx =>
      decide_eq_true fun h => List.find?_eq_none.mp hf x hx (decide_eq_true h)
    right
    simp only [this]
    rfl
  | some e =>
    by_cases hlt : c.now < e.expiry
    · exact .inl ⟨e, rfl, hlt, by simp only [hlt, if_true]⟩
    · right
      simp only [if_neg hlt]
      rfl

/-- Freshness, one lookup: an answer is either fetched from upstream during this very call (and
    computed from that response), or it is the stored result of an earlier fetch whose response had
    smallest TTL `ttl`, with  now < fetchedAt + ttl  — never older than the smallest TTL of the
    response it came from — and then no upstream query is made. -/
theorem C16_fresh (U : Universe) (c : CState) (name : Bytes) (typ : Nat) (ds : List AData) (c' : CState)
    (hi : CInv c) (h : lookupCached U c name typ = (.ok ds, c')) :
    (∃ ttl, resolveOneNC U name typ = .ok (ds, ttl) ∧ c'.upstream = c.upstream ++ [(name, typ, c.now)]) ∨
    (∃ e ∈ c.entries, e.name = name ∧ e.typ = typ ∧ ds = e.res ∧ c.now < e.fetchedAt + e.ttl ∧
       c'.upstream = c.upstream) := by
  rcases lookupCached_cases U c name typ with ⟨e, hf, hlt, hit⟩ | miss
  · cases hit.symm.trans h
    obtain ⟨hm, hn, ht⟩ := find_some hf
    exact .inr ⟨e, hm, hn, ht, rfl, hi.expiry e hm ▸ hlt, rfl⟩
  · rw [miss] at h
    cases hr : resolveOneNC U name typ <;> rw [hr] at h <;> cases h
    exact .inl ⟨_, rfl, rfl⟩

/-- A zero TTL is never served from the cache, and an expired entry is always re-fetched: if the
    stored entry's expiry is not in the future, the lookup goes upstream. -/
theorem C16_expired_refetched (U : Universe) (c : CState) (name : Bytes) (typ : Nat)
    (hexp : ∀ e, c.find name typ = some e → e.expiry ≤ c.now) :
    (lookupCached U c name typ).2.upstream = c.upstream ++ [(name, typ, c.now)] := by
  rcases lookupCached_cases U c name typ with ⟨e, hf, hlt, _⟩ | miss
  · exact absurd (hexp e hf) (Nat.not_le.mpr hlt)
  · rw [miss]
    cases resolveOneNC U name typ <;> rfl

/-- Within the TTL a repeated lookup is served from the cache: no upstream query, same answer. -/
theorem C16_hit_no_upstream (U : Universe) (c : CState) (name : Bytes) (typ : Nat) (e : CEntry)
    (hf : c.find name typ = some e) (hlt : c.now < e.expiry) :
    lookupCached U c name typ = (.ok e.res, c) := by
  unfold lookupCached
  simp only [hf, hlt, if_true]

/-- Failures are never cached: after a failing lookup there is no entry for that key. -/
theorem C16_errors_not_cached (U : Universe) (c c' : CState) (name : Bytes) (typ : Nat) (err : RErr)
    (h : lookupCached U c name typ = (.error err, c')) : c'.find name typ = none := by
  rcases lookupCached_cases U c name typ with ⟨e, _, _, hit⟩ | miss
  · cases hit.symm.trans h
  · rw [miss] at h
    cases hr : resolveOneNC U name typ <;> rw [hr] at h <;> cases h
    exact List.find?_eq_none.mpr fun _ hx h => of_decide_eq_true (List.mem_filter.mp hx).2 (of_decide_eq_true h)

/-- Each critical section preserves the cache invariant. -/
theorem C16_step_inv (U : Universe) (c : CState) (name : Bytes) (typ : Nat) (hi : CInv c) :
    CInv (lookupCached U c name typ).2 ∧ (lookupCached U c name typ).2.now = c.now := by
  rcases lookupCached_cases U c name typ with ⟨e, _, _, hit⟩ | miss
  · rw [hit]
    exact ⟨hi, rfl⟩
  · rw [miss]
    cases resolveOneNC U name typ with
    | error err => exact ⟨hi.of_entries (Nat.le_refl _) fun e he => .inl (mem_without he), rfl⟩
    | ok v =>
      refine ⟨hi.of_entries (Nat.le_refl _) fun e he => ?_, rfl⟩
      rcases List.mem_append.mp he with he | he
      · exact .inl (mem_without he)
      · cases List.mem_singleton.mp he
        exact .inr ⟨rfl, Nat.le_refl _⟩

/-- environment / goroutine steps on the shared cache -/
inductive CStep
  | lookup (U : Universe) (name : Bytes) (typ : Nat)   -- one critical section of resolveOne, by any goroutine
  | advance (d : Nat)                                   -- the clock moves forward
  | forget (name : Bytes) (typ : Nat)                   -- the 2Q cache evicts an entry

def cstep (c : CState) : CStep → CState
  | .lookup U name typ => (lookupCached U c name typ).2
  | .advance d => { c with now := c.now + d }
  | .forget name typ => { c with entries := c.without name typ }

/-- The invariant holds after ANY interleaving of lookups by any number of goroutines, clock
    advances, zone changes (each lookup carries its own universe), upstream failures (universes
    answering `fail`) and cache evictions — so C16_fresh applies to every lookup of every history. -/
theorem C16_atomic (steps : List CStep) (c : CState) (hi : CInv c) : CInv (steps.foldl cstep c) := by
  induction steps generalizing c with
  | nil => exact hi
  | cons s ss ih =>
    apply ih
    cases s with
    | lookup U name typ => exact (C16_step_inv U c name typ hi).1
    | advance d => exact hi.of_entries (Nat.le_add_right ..) fun _ he => .inl he
    | forget name typ => exact hi.of_entries (Nat.le_refl _) fun _ he => .inl (mem_without he)

/-- the empty cache satisfies the invariant (non-vacuity of `hi`) -/
example : CInv {} := ⟨fun _ h => by simp at h, fun _ h => by simp at h⟩

/-- the TTL the cache uses is the smallest TTL of the answer section (all records, not only those
    of the asked type), 300 only for an empty section -/
theorem C16_min_ttl (as : List Ans) : (as = [] → minTTL as = 300) ∧ (∀ a ∈ as, minTTL as ≤ a.ttl) := by
  refine ⟨fun h => h ▸ rfl, ?_⟩
  induction as with
  | nil => exact fun _ h => nomatch h
  | cons x xs ih =>
    intro a ha
    cases xs with
    | nil =>
      cases List.mem_singleton.mp ha
      exact Nat.le_refl _
    | cons y ys =>
      show min x.ttl (minTTL (y :: ys)) ≤ a.ttl
      rcases List.mem_cons.mp ha with rfl | ha
      · exact Nat.min_le_left ..
      · exact Nat.le_trans (Nat.min_le_right ..) (ih a ha)

end Resolve

/-! ## the cache under real interleavings: the fine-grained model of `resolveOne` -/
namespace CacheLts

/-- Freshness under every interleaving of any number of goroutines, clock advances, evictions and
    upstream answers: an answer returned by `resolveOne` came from an upstream response `f`, and at an
    instant τ inside this very call either `f` had just been received by this goroutine, or `f` was
    still within its smallest TTL. -/
theorem C16_concurrent_fresh (ls : List Label) (s : St) (h : run false init ls = some s)
    (t : Nat) (r : Option Fetch) (τ : Nat) (own : Bool) (hd : (s.ths t).pc = .done r τ own) :
    ∃ f, r = some f ∧ (s.ths t).startedAt ≤ τ ∧ τ ≤ s.now ∧
      (own = true → f.rcvd = τ) ∧ (own = false → f.rcvd ≤ τ ∧ τ < f.rcvd + f.ttl) := by
  obtain ⟨h1, h2, f, h3, h4, h5⟩ := ((reach_inv h).ths t).done hd
  exact ⟨f, h3, h1, h2, h4, h5⟩

/-- The same, as seen from outside a call (this is the predicate the harness evaluates on every
    answer of the concurrent campaign): the answer's response arrived during the call, or the call
    began while that response was within its TTL. -/
theorem C16_concurrent_answer_fresh (ls : List Label) (s : St) (h : run false init ls = some s)
    (t : Nat) (r : Option Fetch) (τ : Nat) (own : Bool) (hd : (s.ths t).pc = .done r τ own) :
    ∃ f, r = some f ∧ answerFresh (s.ths t).startedAt f = true := by
  obtain ⟨f, h1, h2, _, h4, h5⟩ := C16_concurrent_fresh ls s h t r τ own hd
  refine ⟨f, h1, ?_⟩
  unfold answerFresh
  cases own with
  | true => have := h4 rfl; simp only [Bool.or_eq_true, decide_eq_true_eq]; left; omega
  | false => have := h5 rfl; simp only [Bool.or_eq_true, decide_eq_true_eq]; right; omega

/-- One of them fetches, the others wait: two goroutines are never both inside the critical
    section of the same entry, so at most one upstream query per entry is in flight. -/
theorem C16_one_fetch_per_entry (ls : List Label) (s : St) (h : run false init ls = some s) (t1 t2 o : Nat)
    (h1 : (s.ths t1).pc.inCS o) (h2 : (s.ths t2).pc.inCS o) : t1 = t2 :=
  have hi := reach_inv h
  Option.some.inj (((hi.ths t1).holder h1).symm.trans ((hi.ths t2).holder h2))

/-- An upstream query is in flight only for an entry that is absent or has expired. -/
theorem C16_upstream_only_when_expired (ls : List Label) (s : St) (h : run false init ls = some s) (t o : Nat)
    (hf : (s.ths t).pc = .fetching o) :
    (s.objs o).exp = none ∨ ∃ e, (s.objs o).exp = some e ∧ e ≤ s.now := by
  have hfr := ((reach_inv h).ths t).expired hf
  unfold fresh at hfr
  split at hfr
  · exact .inr ⟨_, ‹_›, by simpa using hfr⟩
  · exact .inl ‹_›

/-- A failed upstream query leaves nothing behind: the key is unmapped, the lock is free, and the
    entry object still holds what it held (an expired or empty pair, never the failure). -/
theorem C16_failure_unmaps (s s' : St) (t : Nat) (h : step false s (.fetchErr t) = some s') :
    s'.cur = none ∧ (s'.ths t).pc = .failed ∧
    ∃ o, (s.ths t).pc = .fetching o ∧ (s'.objs o).holder = none ∧
      (s'.objs o).exp = (s.objs o).exp ∧ (s'.objs o).res = (s.objs o).res := by
  dsimp only [step] at h
  split at h <;> cases h
  next o hpc => exact ⟨rfl, by simp, o, hpc, by simp, by simp, by simp⟩

/-- An entry added after a miss is a new, empty `cacheValue`: nobody holds it, it has no expiry,
    and the goroutine that added it will go upstream. -/
theorem C16_added_entry_is_empty (ls : List Label) (s s' : St) (h : run false init ls = some s) (t : Nat)
    (hs : step false s (.add t) = some s') :
    ∃ o, (s'.ths t).pc = .got o ∧ s'.cur = some o ∧ s'.objs o = {} := by
  dsimp only [step] at hs
  split at hs <;> cases hs
  exact ⟨s.nObjs, by simp, rfl, (run_inv alloc_step init s ls alloc_init h).unused s.nObjs (Nat.le_refl _)⟩

/-- No goroutine is ever stuck for good: whenever some call is in progress, a step of some
    goroutine (not of the clock, not an eviction) is enabled — a goroutine waiting for an entry's
    lock waits for a goroutine that can itself move. -/
theorem C16_no_deadlock (ls : List Label) (s : St) (h : run false init ls = some s) (t : Nat)
    (hbusy : (s.ths t).pc ≠ .idle ∧ (∀ r τ own, (s.ths t).pc ≠ .done r τ own) ∧ (s.ths t).pc ≠ .failed) :
    ∃ l, (∀ d, l ≠ .tick d) ∧ l ≠ .evict ∧ (step false s l).isSome = true := by
  have hi := reach_inv h
  have inCSMoves : ∀ o t', (s.ths t').pc.inCS o →
      ∃ l, (∀ d, l ≠ .tick d) ∧ l ≠ .evict ∧ (step false s l).isSome = true := by
    intro o t' h1
    cases hpc : (s.ths t').pc <;> rw [hpc] at h1 <;> cases h1
    · -- the step is enabled: unfold, rewrite the guard, compute (here on both outcomes of the freshness test)
      refine ⟨.recheck t', nofun, nofun, ?_⟩
      dsimp only [step]
      rw [hpc]
      dsimp only
      cases fresh _ s.now <;> rfl
    · exact ⟨.fetchErr t', nofun, nofun, by dsimp only [step]; rw [hpc]; rfl⟩
  cases hpc : (s.ths t).pc with
  | idle => exact absurd hpc hbusy.1
  | failed => exact absurd hpc hbusy.2.2
  | done r τ own => exact absurd hpc (hbusy.2.1 r τ own)
  | adding => exact ⟨.add t, nofun, nofun, by dsimp only [step]; rw [hpc]; rfl⟩
  | got o =>
    cases hh : (s.objs o).holder with
    | none =>
      refine ⟨.snapshot t, nofun, nofun, ?_⟩
      dsimp only [step]
      rw [hpc]
      dsimp only
      rw [hh]
      rfl
    | some t' => exact inCSMoves o t' (hi.held o t' hh)
  | snap o exp res =>
    refine ⟨.fastCheck t, nofun, nofun, ?_⟩
    dsimp only [step]
    rw [hpc]
    dsimp only
    cases fresh exp s.now <;> rfl
  | want o sr =>
    cases hh : (s.objs o).holder with
    | none =>
      refine ⟨.acquire t, nofun, nofun, ?_⟩
      dsimp only [step]
      rw [hpc]
      dsimp only
      rw [hh]
      rfl
    | some t' => exact inCSMoves o t' (hi.held o t' hh)
  | locked o sr => exact inCSMoves o t (by rw [hpc]; rfl)
  | fetching o => exact inCSMoves o t (by rw [hpc]; rfl)

/-! non-vacuity: a schedule in which goroutine 0 misses, adds the entry and fetches (value 7, TTL 60),
    goroutine 1 is served from the cache 59 s later, and goroutine 2, 60 s later, waits for the lock
    while goroutine 3 refreshes the entry, then returns the refreshed value (not its own snapshot) -/
def demo : List Label :=
  [.call 0, .add 0, .snapshot 0, .fastCheck 0, .acquire 0, .recheck 0, .fetchOk 0 7 60,
   .tick 59, .call 1, .snapshot 1, .fastCheck 1,
   .tick 1, .call 2, .call 3, .snapshot 2, .snapshot 3, .fastCheck 2, .fastCheck 3,
   .acquire 3, .recheck 3, .fetchOk 3 8 60, .acquire 2, .recheck 2]

example : ∃ s, run false init demo = some s ∧
    (s.ths 0).pc = .done (some ⟨0, 60, 7⟩) 0 true ∧
    (s.ths 1).pc = .done (some ⟨0, 60, 7⟩) 59 false ∧
    (s.ths 3).pc = .done (some ⟨60, 60, 8⟩) 60 true ∧
    (s.ths 2).pc = .done (some ⟨60, 60, 8⟩) 60 false := ⟨_, rfl, rfl, rfl, rfl, rfl⟩

/-- The variant in which a goroutine that waited for the lock returns its own earlier copy
    (`stale = true`) is NOT fresh: in the same schedule goroutine 2, which started at second 60,
    returns the answer received at second 0 with TTL 60. The model tells the two apart. -/
theorem C16_stale_copy_variant_violates :
    ∃ s t f τ, run true init demo = some s ∧ (s.ths t).pc = .done (some f) τ false ∧
      (s.ths t).startedAt ≤ τ ∧ ¬ (τ < f.rcvd + f.ttl) :=
  ⟨_, 2, ⟨0, 60, 7⟩, 60, rfl, rfl, by decide, by decide⟩

end CacheLts
