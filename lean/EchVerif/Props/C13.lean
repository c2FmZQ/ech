import EchVerif.Lemmas.DNSEnc
import EchVerif.Lemmas.NameSpec
import EchVerif.Props.C12
/-
  C13 — the DNS codec round-trips and agrees with an independent RFC 1035/9460 codec.
  Proved here: the name codec round trip (the part everything else rests on), the header round trip,
  the whole-message round trip for every message the encoder can write (questions and A / AAAA /
  NS / CNAME / PTR / OPT / HTTPS records), the padding length law and the extended-RCODE law. The
  agreement with golang.org/x/net/dns/dnsmessage (both directions, record types only the decoder
  knows, compression written by the other side) is carried by the correspondence campaign (exhaustive over headers and question-name lengths) — see DESIGN.md ("partial").
-/
open Wire
namespace DNS

/-- well-formed labels: 1..63 bytes each -/
def LabelsOk (n : Name) : Prop := ∀ l ∈ n, 1 ≤ l.length ∧ l.length ≤ 63

theorem encLabels_ok (n : Name) (h : LabelsOk n) :
    ∃ e, encLabels n = some e ∧ e.length = octets n := by
  induction n with
  | nil => exact ⟨[], rfl, rfl⟩
  | cons l ls ih =>
    have hl := h l (by simp)
    obtain ⟨e, he, hlen⟩ := ih (fun x hx => h x (by simp [hx]))
    exact ⟨u8 l.length ++ l ++ e, encLabels_cons.mpr ⟨_, _, lp8_of (by omega), he, rfl⟩,
      by simp [octets]; omega⟩

/-- Name codec round trip: an uncompressed name of well-formed labels (≤ 255 octets) written by
    the encoder is read back exactly, from any position of any message, followed by any bytes, and
    the cursor ends right after its terminating zero. -/
theorem C13_name_roundtrip (raw : Bytes) (n : Name) (e rest : Bytes) (pos : Nat)
    (hok : LabelsOk n) (hsz : octets n ≤ 255) (he : encLabels n = some e) :
    readName raw ⟨pos, e ++ [0] ++ rest⟩ = some (n, ⟨pos + e.length + 1, rest⟩) := by
  have hl := Labels.enc (raw := raw) (rest := rest) n (w := ⟨pos, e ++ [0] ++ rest⟩) hok he (List.append_assoc ..)
  rw [Win.adv_mk pos (e ++ [0]) rest, List.length_append, ← Nat.add_assoc] at hl
  exact readName_iff.mpr ⟨0, hl, Nat.zero_le _, hsz⟩

/-- Header flag word round trip: for flag fields in range the decoder's bit extraction inverts
    the encoder's packing (all 2^5·16·16 combinations are also enumerated against the code). -/
theorem C13_header_roundtrip (m : EMessage) (h1 : m.qr < 2) (h2 : m.opcode < 16) (h3 : m.aa < 2)
    (h4 : m.tc < 2) (h5 : m.rd < 2) (h6 : m.ra < 2) (h7 : m.rcode < 16) :
    flagsWord m / 32768 = m.qr ∧ flagsWord m / 2048 % 16 = m.opcode ∧ flagsWord m / 1024 % 2 = m.aa ∧
    flagsWord m / 512 % 2 = m.tc ∧ flagsWord m / 256 % 2 = m.rd ∧ flagsWord m / 128 % 2 = m.ra ∧
    flagsWord m % 16 = m.rcode ∧ flagsWord m < 65536 := by
  have h := flagsWord_fields m
  rwa [Nat.mod_eq_of_lt h1, Nat.mod_eq_of_lt h2, Nat.mod_eq_of_lt h3, Nat.mod_eq_of_lt h4, Nat.mod_eq_of_lt h5,
    Nat.mod_eq_of_lt h6, Nat.mod_eq_of_lt h7] at h

/-- Extended RCODE (RFC 6891 6.1.3): low four bits from the header, upper eight bits from bits
    24..31 of the first OPT record's TTL; always below 4096. -/
theorem C13_rcode (rcode ttl : Nat) :
    responseCode rcode none = rcode % 16 ∧
    responseCode rcode (some ttl) = rcode % 16 + (ttl / 16777216 % 256) * 16 ∧
    responseCode rcode (some ttl) < 4096 := by
  refine ⟨rfl, rfl, ?_⟩
  simp only [responseCode]
  omega

/-- AddPadding law: whenever AddPadding and the encoder succeed, the encoded length of the padded
    message is a multiple of 128 (RFC 8467 block padding for queries). -/
theorem C13_padding (m m' : EMessage) (b' : Bytes) (h : addPadding m = some m') (he : encode m' = some b') :
    b'.length % 128 = 0 := by
  revert h
  fun_cases addPadding m <;> intro h
  -- the OPT record `r` is found and the message encodes, to `b`
  case case2 r hr _ _ b hb =>
    cases h
    -- `b'` is the message encoded again with the padding option added: only the record at the index
    -- of the OPT record differs, by the four header bytes of the option and the padding
    have hp := (List.getElem?_eq_some_iff.mp hr).1
    obtain ⟨q, a, au, ad, hq, ha, hau, had, hbe⟩ := encode_eq_some.mp hb
    obtain ⟨q', a', au', ad', hq', ha', hau', had', hbe'⟩ := encode_eq_some.mp he
    cases hq.symm.trans hq'
    cases ha.symm.trans ha'
    cases hau.symm.trans hau'
    obtain ⟨e1, e2, he1, he2, hrel⟩ := encRRs_set_len hp had had'
    have hopt := encRR_opts_len (o := ⟨12, List.replicate (padLen b.length) 0⟩)
      (List.length_replicate ▸ Nat.lt_trans (Nat.mod_lt _ (by decide)) (by decide)) he1 he2
    rw [List.length_replicate] at hopt
    have hbl := congrArg List.length hbe
    have hbl' := congrArg List.length hbe'
    simp only [List.length_append, u16_length] at hbl hbl'
    have hlen : b'.length = b.length + 4 + padLen b.length := by omega
    rw [hlen]
    exact padLen_spec _
  all_goals cases h

/-- the labels the encoder writes for a Go string: none for "", else split on dots -/
def toName (s : Bytes) : Name := if s = [] then [] else splitDots s

/-- the name survives the wire: labels of 1..63 octets, at most 255 octets in all -/
def NameOk (s : Bytes) : Prop := LabelsOk (toName s) ∧ octets (toName s) ≤ 255

theorem encNameStr_toName (s : Bytes) : encNameStr s = (encLabels (toName s)).map (· ++ [0]) := by
  unfold encNameStr toName
  split <;> simp [encLabels]

theorem readName_encNameStr (raw : Bytes) {s nb rest : Bytes} {pos : Nat} (hok : NameOk s)
    (he : encNameStr s = some nb) : readName raw ⟨pos, nb ++ rest⟩ = some (toName s, ⟨pos + nb.length, rest⟩) := by
  rw [encNameStr_toName, Option.map_eq_some_iff] at he
  obtain ⟨e, hl, rfl⟩ := he
  simpa [Nat.add_assoc] using C13_name_roundtrip raw (toName s) e rest pos hok.1 hok.2 hl

def toQ (q : EQuestion) : Question := ⟨toName (trimDot q.name), q.typ, q.cls⟩
def QOk (q : EQuestion) : Prop := NameOk (trimDot q.name) ∧ q.typ < 65536 ∧ q.cls < 65536

theorem decodeQuestions_enc (raw : Bytes) (qs : List EQuestion) :
    ∀ (qb rest : Bytes) (pos : Nat), encQuestions qs = some qb → (∀ q ∈ qs, QOk q) →
      decodeQuestions raw qs.length ⟨pos, qb ++ rest⟩ = some (qs.map toQ, ⟨pos + qb.length, rest⟩) := by
  induction qs with
  | nil =>
    intro qb rest pos he _
    cases he
    simp [decodeQuestions]
  | cons q qs ih =>
    intro qb rest pos he hok
    obtain ⟨a, b, ha, hb, rfl⟩ := encQuestions_cons.mp he
    obtain ⟨hn, ht, hc⟩ := hok q (by simp)
    rw [encQuestion, Option.map_eq_some_iff] at ha
    obtain ⟨nb, hnb, rfl⟩ := ha
    simp only [List.append_assoc, List.length_cons, decodeQuestions, readName_encNameStr raw hn hnb,
      wU16_u16 ht, wU16_u16 hc, ih b rest _ hb (fun x hx => hok x (by simp [hx])), Option.map_some,
      List.map_cons, toQ, List.length_append, u16_length, Nat.add_assoc]

/-- what the decoder yields for encoder-side RDATA (the kinds covered by the round-trip theorem) -/
def toRData : EData → RData
  | .ip b => .ip b
  | .str s => .name (splitDots s)
  | .opts l => .opt l
  | .https prio target alpn nd port v4 v6 ech =>
    .https { priority := prio, target := toName target, alpn := alpn, noDefaultALPN := nd, port := port,
             v4 := v4, v6 := v6, ech := ech }
  | _ => .raw []

/-- RDATA the round-trip theorem covers — everything `RR.Bytes` can write: addresses of the right
    size for A / AAAA, a well-formed name for NS / CNAME / PTR, EDNS options for OPT, and HTTPS
    records (priority, target, alpn, no-default-alpn, port, ipv4hint, ech, ipv6hint) -/
def DataOk (typ : Nat) : EData → Prop
  | .ip b => (typ = 1 ∧ b.length = 4) ∨ (typ = 28 ∧ b.length = 16)
  | .str s => (typ = 2 ∨ typ = 5 ∨ typ = 12) ∧ LabelsOk (splitDots s) ∧ octets (splitDots s) ≤ 255
  | .opts l => typ = 41 ∧ ∀ o ∈ l, o.code < 65536 ∧ o.data.length < 65536
  | .https prio target alpn _ port v4 v6 ech =>
    typ = 65 ∧ prio < 65536 ∧ NameOk target ∧ port < 65536 ∧ ech.length < 65536 ∧
    (∀ ab, encAlpn alpn = some ab → ab.length < 65536) ∧
    (∀ a ∈ v4, a.length = 4) ∧ v4.flatten.length < 65536 ∧
    (∀ a ∈ v6, a.length = 16) ∧ v6.flatten.length < 65536
  | _ => False

def RROk (r : ERR) : Prop :=
  NameOk r.name ∧ r.typ < 65536 ∧ r.cls < 65536 ∧ r.ttl < 4294967296 ∧ DataOk r.typ r.data

def toRR (r : ERR) : RR := ⟨toName r.name, r.typ, r.cls, r.ttl, toRData r.data⟩

theorem decodeRData_enc (raw : Bytes) {typ : Nat} {d : EData} {x : Bytes} {pos : Nat}
    (hok : DataOk typ d) (he : encRData typ d = some x) :
    decodeRData raw typ ⟨pos, x⟩ = some (toRData d) := by
  cases d with
  | ip b =>
    cases he
    rcases hok with ⟨rfl, hl⟩ | ⟨rfl, hl⟩
    · rw [decodeRData_a, if_pos hl]
      rfl
    · rw [decodeRData_aaaa, if_pos hl]
      rfl
  | str s =>
    obtain ⟨ht, hlab, hoct⟩ := hok
    rw [encRData, if_pos ht, Option.map_eq_some_iff] at he
    obtain ⟨e, hl, rfl⟩ := he
    have := C13_name_roundtrip raw (splitDots s) e [] pos hlab hoct hl
    rw [List.append_nil] at this
    rw [decodeRData_name ht, this]
    rfl
  | opts l =>
    obtain ⟨rfl, hl⟩ := hok
    rw [decodeRData_opt, optsF_enc l x _ he (fun o ho => (hl o ho).1) (Nat.le_refl _)]
    rfl
  | https prio target alpn nd port v4 v6 ech =>
    -- the four size bounds of `DataOk` are not needed: the encoder checks them itself
    obtain ⟨rfl, hp, hn, hport, _, _, hv4, _, hv6, _⟩ := hok
    simp only [encRData] at he
    split at he
    next t a h4 e h6 ht ha hh4 hee hh6 =>
      cases he
      simp only [decodeRData_https, decHTTPS, List.append_assoc, wU16_u16 hp,
        readName_encNameStr raw hn ht]
      rw [httpsParams_enc alpn nd port v4 v6 ech a h4 e h6 { priority := prio, target := toName target }
        _ ha hh4 hee hh6 hport hv4 hv6 (Nat.le_refl _)]
      have e2 : (if port > 0 then port else 0) = port := by
        split
        · rfl
        · exact (Nat.eq_zero_of_not_pos ‹_›).symm
      simp [toRData, e2]
    next => cases he
  | other => exact hok.elim

theorem decodeRR_enc (raw : Bytes) (r : ERR) (rb rest : Bytes) (pos : Nat) (hok : RROk r)
    (he : encRR r = some rb) : decodeRR raw ⟨pos, rb ++ rest⟩ = some (toRR r, ⟨pos + rb.length, rest⟩) := by
  obtain ⟨hn, ht, hc, htt, hd⟩ := hok
  obtain ⟨nb, d, hnb, hdd, rfl⟩ := encRR_eq_some.mp he
  rw [Option.bind_eq_some_iff] at hdd
  obtain ⟨x, hx, hdd⟩ := hdd
  have hdl : d.length = 2 + x.length := by
    obtain ⟨_, rfl⟩ := lp16_ok hdd
    simp
  simp only [List.append_assoc, decodeRR, readName_encNameStr raw hn hnb, wU16_u16 ht, wU16_u16 hc,
    wU32_u32 htt, wLP16_lp16 hdd, decodeRData_enc raw hd hx, Option.map_some, toRR,
    List.length_append, u16_length, u32_length, hdl, Nat.add_assoc]

theorem decodeRRs_enc (raw : Bytes) (rs : List ERR) :
    ∀ (b rest : Bytes) (pos : Nat), encRRs rs = some b → (∀ r ∈ rs, RROk r) →
      decodeRRs raw rs.length ⟨pos, b ++ rest⟩ = some (rs.map toRR, ⟨pos + b.length, rest⟩) := by
  induction rs with
  | nil =>
    intro b rest pos he _
    cases he
    simp [decodeRRs]
  | cons r rs ih =>
    intro b rest pos he hok
    obtain ⟨a, c, ha, hc, rfl⟩ := encRRs_cons.mp he
    simp only [List.append_assoc, List.length_cons, decodeRRs, decodeRR_enc raw r a _ pos (hok r (by simp)) ha,
      ih c rest _ hc (fun x hx => hok x (by simp [hx])), Option.map_some, List.map_cons, List.length_append,
      Nat.add_assoc]

/-- the message a well-formed encoder-side message decodes to -/
def toMessage (m : EMessage) : Message :=
  { id := m.id, qr := m.qr, opcode := m.opcode, aa := m.aa, tc := m.tc, rd := m.rd, ra := m.ra, rcode := m.rcode,
    question := m.question.map toQ, answer := m.answer.map toRR, authority := m.authority.map toRR,
    additional := m.additional.map toRR }

structure MsgOk (m : EMessage) : Prop where
  id : m.id < 65536
  qr : m.qr < 2
  opcode : m.opcode < 16
  aa : m.aa < 2
  tc : m.tc < 2
  rd : m.rd < 2
  ra : m.ra < 2
  rcode : m.rcode < 16
  nq : m.question.length < 65536
  nan : m.answer.length < 65536
  nns : m.authority.length < 65536
  nar : m.additional.length < 65536
  qs : ∀ q ∈ m.question, QOk q
  an : ∀ r ∈ m.answer, RROk r
  ns : ∀ r ∈ m.authority, RROk r
  ar : ∀ r ∈ m.additional, RROk r

/-- Whole-message round trip: every message made of a header with in-range fields, any number of
    questions and any number of A / AAAA / NS / CNAME / PTR / OPT / HTTPS records in the three record
    sections — every kind of RDATA `RR.Bytes` can write — with names of well-formed labels
    (≤ 255 octets), that `Message.Bytes` encodes, is decoded by `DecodeMessage` to exactly the same
    header, questions and records, HTTPS parameters included. (Record types only the decoder knows
    are compared with dnsmessage by the correspondence campaign.) -/
theorem C13_message_roundtrip (m : EMessage) (b : Bytes) (hok : MsgOk m) (he : encode m = some b) :
    decode b = some (toMessage m) := by
  obtain ⟨q, a, ns, ar, hq, ha, hns, har, hb⟩ := encode_eq_some.mp he
  obtain ⟨f1, f2, f3, f4, f5, f6, f7, f8⟩ := C13_header_roundtrip m hok.qr hok.opcode hok.aa hok.tc hok.rd hok.ra hok.rcode
  -- `b` stays a variable: it is also the message in which the section decoders would follow pointers
  have hshape : b = u16 m.id ++ (u16 (flagsWord m) ++ (u16 m.question.length ++ (u16 m.answer.length ++
      (u16 m.authority.length ++ (u16 m.additional.length ++ (q ++ (a ++ (ns ++ (ar ++ []))))))))) := by
    rw [hb]
    simp only [List.append_assoc, List.append_nil]
  have d1 := decodeQuestions_enc b m.question q (a ++ (ns ++ (ar ++ []))) 12 hq hok.qs
  have d2 := decodeRRs_enc b m.answer a (ns ++ (ar ++ [])) (12 + q.length) ha hok.an
  have d3 := decodeRRs_enc b m.authority ns (ar ++ []) (12 + q.length + a.length) hns hok.ns
  have d4 := decodeRRs_enc b m.additional ar [] (12 + q.length + a.length + ns.length) har hok.ar
  unfold decode
  conv => lhs; rw [hshape]
  simp only [readU16_u16 hok.id, readU16_u16 f8, readU16_u16 hok.nq, readU16_u16 hok.nan, readU16_u16 hok.nns,
    readU16_u16 hok.nar]
  rw [← hshape]
  simp only [d1, d2, d3, d4, toMessage, f1, f2, f3, f4, f5, f6, f7]

/-! ### agreement of the name decoder with RFC 1035, as a theorem

`Spec/DNSName.lean` defines "the domain name at offset `pos` of message `raw`" as a relation
written from RFC 1035 3.1 / 4.1.4 alone (labels, root, 14-bit pointers). -/

/-- Soundness: whatever the decoder returns for a name read at a position inside the message is
    the RFC 1035 name at that offset, it respects the 255-octet limit, every pointer followed
    points backwards, at most 255 of them, and the cursor it leaves is inside the message again. -/
theorem C13_name_refines_rfc1035 (raw : Bytes) (w w' : Win) (n : Name) (hw : Win.Inside raw w)
    (h : readName raw w = some (n, w')) :
    Spec.NameAt raw w.pos n ∧ Spec.octets n ≤ 255 ∧
    (∃ k, Spec.NameAtBack raw w.pos n k ∧ k ≤ 255) ∧ Win.Inside raw w' := by
  obtain ⟨k, hl, hk, ho⟩ := readName_iff.mp h
  obtain ⟨_, _, ha⟩ := hl.adv
  have hb := hl.sound hw
  exact ⟨hb.toNameAt, octets_eq n ▸ ho, ⟨k, hb, hk⟩, ha.inside hw⟩

/-- Completeness: every name the relation defines at an offset - pointers backwards, at most 255 of
    them, at most 255 octets - is decoded, and decoded to exactly those labels. -/
theorem C13_name_complete (raw : Bytes) (pos k : Nat) (n : Name) (h : Spec.NameAtBack raw pos n k)
    (hk : k ≤ 255) (hs : Spec.octets n ≤ 255) :
    ∃ w', readName raw ⟨pos, raw.drop pos⟩ = some (n, w') :=
  have ⟨e, he⟩ := Labels.complete h
  ⟨e, readName_iff.mpr ⟨k, he, hk, octets_eq n ▸ hs⟩⟩

/-- … so on whole windows the decoder *is* the relation restricted to the budget: -/
theorem C13_name_decoder_is_rfc1035 (raw : Bytes) (pos : Nat) (n : Name) :
    (∃ w', readName raw ⟨pos, raw.drop pos⟩ = some (n, w')) ↔
      ∃ k, Spec.NameAtBack raw pos n k ∧ k ≤ 255 ∧ Spec.octets n ≤ 255 := by
  constructor
  · rintro ⟨w', h⟩
    obtain ⟨_, h2, ⟨k, h3, h4⟩, _⟩ := C13_name_refines_rfc1035 raw ⟨pos, raw.drop pos⟩ w' n (Win.inside_whole raw pos) h
    exact ⟨k, h3, h4, h2⟩
  · rintro ⟨k, h1, h2, h3⟩
    exact C13_name_complete raw pos k n h1 h2 h3

/-- the relation is a function: one name per offset (so "the" name at an offset is well defined and
    the decoder's answer is the only one an RFC 1035 reader can give) -/
theorem C13_name_unique (raw : Bytes) (pos k1 k2 : Nat) (n1 n2 : Name)
    (h1 : Spec.NameAtBack raw pos n1 k1) (h2 : Spec.NameAtBack raw pos n2 k2) : n1 = n2 ∧ k1 = k2 := by
  induction h1 generalizing n2 k2 with
  | root h0 =>
    cases h2 with
    | root _ => exact ⟨rfl, rfl⟩
    | label g0 gne _ _ _ => rw [h0] at g0; cases g0; exact absurd rfl gne
    | ptr g0 gp _ _ _ => rw [h0] at g0; cases g0; simp at gp
  | label h0 hne hnp _ _ ih =>
    cases h2 with
    | root g0 => rw [h0] at g0; cases g0; exact absurd rfl hne
    | label g0 _ _ _ g =>
      rw [h0] at g0; cases g0
      obtain ⟨e1, e2⟩ := ih _ _ g
      exact ⟨by rw [e1], e2⟩
    | ptr g0 gp _ _ _ => rw [h0] at g0; cases g0; exact absurd gp hnp
  | ptr h0 hp h1' _ _ ih =>
    cases h2 with
    | root g0 => rw [h0] at g0; cases g0; simp at hp
    | label g0 _ gnp _ _ => rw [h0] at g0; cases g0; exact absurd hp gnp
    | ptr g0 _ g1 _ g =>
      rw [h0] at g0; cases g0
      rw [h1'] at g1; cases g1
      obtain ⟨e1, e2⟩ := ih _ _ g
      exact ⟨e1, by omega⟩

/-- the names inside record data the resolver follows: NS / CNAME / PTR targets and the target of
    an HTTPS record -/
def RDataNames (raw : Bytes) : RData → Prop
  | .name n => ∃ p, Spec.NameAt raw p n
  | .https h => ∃ p, Spec.NameAt raw p h.target
  | _ => True

theorem decodeRData_names (raw : Bytes) (typ : Nat) (data : Win) (d : RData) (hd : Win.Inside raw data)
    (h : decodeRData raw typ data = some d) : RDataNames raw d := by
  have ht := C12_types raw typ data d h
  cases d with
  | name n =>
    rw [decodeRData_name ht, Option.map_eq_some_iff] at h
    obtain ⟨⟨n', w'⟩, hr, he⟩ := h
    cases he
    exact ⟨data.pos, (C13_name_refines_rfc1035 raw data w' n hd hr).1⟩
  | https hh =>
    cases (ht : typ = 65)
    rw [decodeRData_https] at h
    obtain ⟨_, w1, w2, _, h1, h2, hx⟩ := decHTTPS_inv h
    cases hx
    exact ⟨w1.pos, (C13_name_refines_rfc1035 raw w1 w2 _ ((wU16_adv h1).inside hd) h2).1⟩
  | _ => trivial

theorem decodeRR_names {raw : Bytes} {w w' : Win} {rr : RR} (hw : Win.Inside raw w)
    (h : decodeRR raw w = some (rr, w')) : Spec.NameAt raw w.pos rr.name ∧ RDataNames raw rr.data := by
  obtain ⟨w1, w2, w3, w4, data, h1, h2, h3, h4, h5, hd⟩ := decodeRR_inv h
  obtain ⟨hn, _, _, i1⟩ := C13_name_refines_rfc1035 raw w w1 rr.name hw h1
  have i4 := (wU32_adv h4).inside ((wU16_adv h3).inside ((wU16_adv h2).inside i1))
  exact ⟨hn, decodeRData_names raw rr.typ data rr.data (wLP16_inside i4 h5) hd⟩

/-- Every name a successful `DecodeMessage` hands to its caller - question names, the owner name
    of every record of the three sections, the target of every NS / CNAME / PTR and HTTPS record -
    is the RFC 1035 name found at some offset of the message that was decoded: the decoder cannot
    invent a name, take one from outside the message or splice labels that RFC 1035 does not join. -/
theorem C13_message_names_rfc1035 (raw : Bytes) (m : Message) (h : decode raw = some m) :
    (∀ q ∈ m.question, ∃ p, Spec.NameAt raw p q.name) ∧
    (∀ rr ∈ m.answer ++ m.authority ++ m.additional,
      (∃ p, Spec.NameAt raw p rr.name) ∧ RDataNames raw rr.data) := by
  obtain ⟨hq, hr⟩ := decode_parts h
  have i0 : Win.Inside raw ⟨12, raw.drop 12⟩ := Win.inside_whole raw 12
  constructor
  · intro q hq'
    obtain ⟨_, w, w', ha, hn⟩ := hq q hq'
    exact ⟨w.pos, (C13_name_refines_rfc1035 raw w w' q.name (ha.inside i0) hn).1⟩
  · intro rr hrr
    obtain ⟨_, w, w', ha, hd⟩ := hr rr hrr
    obtain ⟨hn, hdn⟩ := decodeRR_names (ha.inside i0) hd
    exact ⟨⟨w.pos, hn⟩, hdn⟩

/-- non-vacuity: "ex" followed by a pointer back to it, read at the pointer -/
example : Spec.NameAtBack [2, 101, 120, 0, 192, 0] 4 [[101, 120]] 1 :=
  .ptr (b0 := 192) (b1 := 0) rfl (by decide) rfl (by decide)
    (.label (len := 2) rfl (by decide) (by decide) (by decide) (.root rfl))

/-! non-vacuity: a query for "ex" (type HTTPS) with a padded OPT record satisfies the hypotheses -/

def demoMsg : EMessage :=
  { id := 7, rd := 1, question := [⟨[101, 120], 65, 1⟩],
    additional := [⟨[], 41, 4096, 0, .opts [⟨12, [0, 0]⟩]⟩] }

theorem demo_names : toName (trimDot [101, 120]) = [[101, 120]] := by
  simp [toName, trimDot, splitDots]

example : MsgOk demoMsg := by
  refine ⟨by simp [demoMsg], by simp [demoMsg], by simp [demoMsg], by simp [demoMsg], by simp [demoMsg], by simp [demoMsg],
    by simp [demoMsg], by simp [demoMsg], by simp [demoMsg], by simp [demoMsg], by simp [demoMsg], by simp [demoMsg], ?_, ?_, ?_, ?_⟩
  · intro q hq
    simp [demoMsg] at hq
    subst hq
    refine ⟨⟨?_, ?_⟩, by simp, by simp⟩
    · rw [demo_names]; intro l hl; simp at hl; subst hl; simp
    · rw [demo_names]; simp [octets]
  · intro r hr; simp [demoMsg] at hr
  · intro r hr; simp [demoMsg] at hr
  · intro r hr
    simp [demoMsg] at hr
    subst hr
    refine ⟨⟨?_, ?_⟩, by simp, by simp, by simp, ?_⟩
    · simp [toName, LabelsOk]
    · simp [toName, octets]
    · simp [DataOk]

end DNS
