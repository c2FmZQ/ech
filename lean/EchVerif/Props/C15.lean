import EchVerif.Resolve.Targets
/-
  C15 — connection targets are a pure, rule-conforming function of the resolution result.
-/
namespace Resolve

theorem addAll_eq_dedup (net : Network) (r : Result) (ips : List IP) (port : Nat) (ech : Option Bytes)
    (alpn : List Bytes) (acc : List Target) :
    addAll net r acc ips port ech alpn =
      dedup ((ips.map fun ip => (⟨ip, effPort r port, ech, alpn⟩ : Target)).filter (fun t => familyOk net t.ip)) acc := by
  induction ips generalizing acc with
  | nil => rfl
  | cons ip ips ih =>
    refine (ih (add net r acc ip port ech alpn)).trans ?_
    rw [List.map_cons, List.filter_cons, add]
    cases familyOk net ip
    · rfl
    · simp only [not_true_eq_false, if_false, if_true, dedup]
      split <;> rfl

theorem dedup_append (a b acc : List Target) : dedup (a ++ b) acc = dedup b (dedup a acc) := by
  induction a generalizing acc with
  | nil => rfl
  | cons t ts ih =>
    simp only [List.cons_append, dedup]
    split <;> exact ih _

theorem httpsLoop_eq_dedup (net : Network) (r : Result) (hs : List HttpsRec) (acc : List Target) :
    httpsLoop net r hs acc =
      dedup (((hs.filter (·.priority ≠ 0)).flatMap fun h =>
        (recAddrs r h).map fun ip => (⟨ip, effPort r (recPort r h), h.ech, recAlpn h⟩ : Target)).filter
          (fun t => familyOk net t.ip)) acc := by
  induction hs generalizing acc with
  | nil => rfl
  | cons h hs ih =>
    simp only [httpsLoop]
    by_cases hp : h.priority = 0
    · simp only [hp, if_true]
      rw [ih]
      simp [hp]
    · simp only [hp, if_false]
      rw [ih, addAll_eq_dedup]
      rw [List.filter_cons_of_pos (by simpa using hp)]
      simp only [List.flatMap_cons, List.filter_append, dedup_append]

/-- The iterator computes exactly the declarative specification: service-mode records in order,
    each contributing its own addresses (target's, else origin's, else hints) with its own port
    (80 upgraded to 443), ECH list and ALPN set (+ http/1.1 unless no-default-alpn), restricted to
    the requested family, first occurrence of each address/port pair; plain addresses only when no
    service record produced a target. -/
theorem C15_refines (r : Result) (net : Network) : targets r net = TargetsSpec r net := by
  unfold targets TargetsSpec svcTargets plainTargets candidates
  rw [httpsLoop_eq_dedup, addAll_eq_dedup]

theorem dedup_induction {I : List Target → Prop} (ts : List Target) : ∀ acc, I acc →
    (∀ acc, I acc → ∀ t ∈ ts, (acc.any fun x => x.ip = t.ip ∧ x.port = t.port) = false → I (acc ++ [t])) →
    I (dedup ts acc) := by
  induction ts with
  | nil => exact fun _ h _ => h
  | cons t ts ih =>
    intro acc h0 hs
    have hs' := fun a ha x hx => hs a ha x (List.mem_cons_of_mem _ hx)
    simp only [dedup]
    split
    · exact ih acc h0 hs'
    · exact ih _ (hs acc h0 t (List.mem_cons_self ..) ((Bool.not_eq_true _).mp ‹_›)) hs'

theorem dedup_nodup (ts : List Target) : ((dedup ts []).map fun t => (t.ip, t.port)).Nodup := by
  refine dedup_induction (I := fun l => (l.map fun t => (t.ip, t.port)).Nodup) ts [] .nil fun acc ha t _ hn => ?_
  rw [List.map_append, List.nodup_append]
  refine ⟨ha, List.pairwise_singleton _ _, fun a ha' b hb hab => ?_⟩
  obtain ⟨x, hx, rfl⟩ := List.mem_map.mp ha'
  cases List.mem_singleton.mp hb
  exact List.any_eq_false.mp hn x hx (decide_eq_true ⟨congrArg Prod.fst hab, congrArg Prod.snd hab⟩)

/-- No duplicate address/port pairs. -/
theorem C15_nodup (r : Result) (net : Network) : ((targets r net).map fun t => (t.ip, t.port)).Nodup := by
  rw [C15_refines]
  unfold TargetsSpec
  split <;> exact dedup_nodup _

theorem dedup_mem {P : Target → Prop} {ts : List Target} (h : ∀ t ∈ ts, P t) : ∀ t ∈ dedup ts [], P t := by
  refine dedup_induction (I := fun l => ∀ t ∈ l, P t) ts [] (fun _ hx => nomatch hx) ?_
  intro acc hacc t ht _ x hx
  rcases List.mem_append.mp hx with hx | hx
  · exact hacc x hx   -- already in `acc`
  · cases List.mem_singleton.mp hx   -- the element just added
    exact h t ht

/-- Restricted to the requested address family: tcp4/udp4 ⇒ 4-byte, tcp6/udp6 ⇒ 16-byte addresses. -/
theorem C15_family (r : Result) (net : Network) : ∀ t ∈ targets r net, familyOk net t.ip = true := by
  rw [C15_refines]
  unfold TargetsSpec
  split <;> exact dedup_mem fun t ht => (List.mem_filter.mp ht).2

theorem candidates_alias_ignored (r : Result) :
    candidates { r with https := r.https.filter (·.priority ≠ 0) } = candidates r :=
  congrArg (List.flatMap _) (List.filter_eq_self.mpr fun _ ha => (List.mem_filter.mp ha).2)

/-- Alias-mode records (priority 0) are ignored. -/
theorem C15_alias_ignored (r : Result) (net : Network) :
    targets r net = targets { r with https := r.https.filter (·.priority ≠ 0) } net := by
  rw [C15_refines, C15_refines]
  unfold TargetsSpec svcTargets
  rw [candidates_alias_ignored]
  rfl

/-- Plain addresses (no ECH, no ALPN) are offered only when no HTTPS record produced a target. -/
theorem C15_plain_only_if_none (r : Result) (net : Network) :
    (svcTargets r net ≠ [] → targets r net = svcTargets r net) ∧
    (svcTargets r net = [] → targets r net = plainTargets r net ∧
        ∀ t ∈ targets r net, t.ech = none ∧ t.alpn = [] ∧ t.ip ∈ r.address) := by
  rw [C15_refines]
  unfold TargetsSpec
  refine ⟨fun h => if_pos h, fun h => ?_⟩
  rw [if_neg (not_not_intro h)]
  refine ⟨rfl, dedup_mem fun t ht => ?_⟩
  obtain ⟨ip, hip, rfl⟩ := List.mem_map.mp (List.mem_filter.mp ht).1
  exact ⟨rfl, rfl, hip⟩

/-- Every target comes from a service record's own data: its ECH list and ALPN set are those of one
    non-alias HTTPS record, its address one of that record's addresses. -/
theorem C15_own_record (r : Result) (net : Network) :
    ∀ t ∈ svcTargets r net, ∃ h ∈ r.https, h.priority ≠ 0 ∧ t.ech = h.ech ∧ t.alpn = recAlpn h ∧
      t.ip ∈ recAddrs r h ∧ t.port = effPort r (recPort r h) := by
  refine dedup_mem fun t ht => ?_
  obtain ⟨h, hh, ht⟩ := List.mem_flatMap.mp (List.mem_filter.mp ht).1
  obtain ⟨ip, hip, rfl⟩ := List.mem_map.mp ht
  have hh := List.mem_filter.mp hh
  exact ⟨h, hh.1, by simpa using hh.2, rfl, rfl, hip, rfl⟩

/-- Stopping the iteration after k targets yields the k-prefix of the full enumeration. -/
theorem C15_prefix (r : Result) (net : Network) (k : Nat) :
    targetsUpTo r net k <+: targets r net := List.take_prefix k _

/-- Enumerating performs no store into the record's ALPN backing array: after `slices.Clip` the
    append of "http/1.1" always allocates, whatever spare capacity the slice had. -/
theorem C15_no_writes (s : Slice) (x : Bytes) : (goAppend (goClip s) x).2 = none := by
  unfold goAppend goClip
  simp only [List.length_take]
  rw [if_neg (by omega)]

/-- … whereas without the clip a slice with spare capacity is written in place (the defect fixed in
    /repo): non-vacuity of the slice model. -/
example : (goAppend ⟨[[1], [2], [3], [0]], 3⟩ [9]).2 = some 3 := by decide

end Resolve
