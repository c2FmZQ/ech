import EchVerif.Transport
/-
  C19 — Transport keeps HTTP requests encrypted, correctly named and origin-isolated.
  Proved: the decision function. That net/http honours the pool key, refuses plaintext through the
  failing DialContext and negotiates the protocol is observed on a real http.Client ("partial").
-/
namespace Transport
open Resolve

/-- http is upgraded to https whenever the origin publishes HTTPS records; otherwise the scheme is
    the caller's. The plaintext dialer (a constant failure) is reached only when this is "http". -/
theorem C19_upgrade (i : In) :
    (i.https ≠ [] → i.scheme = bHttp → scheme' i = bHttps) ∧
    (i.https = [] → scheme' i = i.scheme) ∧ (i.scheme ≠ bHttp → scheme' i = i.scheme) := by
  unfold scheme'
  refine ⟨fun h1 h2 => by simp [h1, h2], fun h => by simp [h], fun h => by simp [h]⟩

/-- The TLS server name and the Host header depend only on the request's URL and Host field —
    whatever DNS says (aliases, targets, any HTTPS record set). -/
theorem C19_names (i : In) (recs : List HttpsRec) :
    (hostPort { i with https := recs }).1 = (hostPort i).1 ∧ hostHeader { i with https := recs } = hostHeader i ∧
    (hostPort i).1 = (match i.split with | some hp => hp.1 | none => i.urlHost) := by
  refine ⟨?_, rfl, ?_⟩
  · unfold hostPort
    cases i.split <;> rfl
  · unfold hostPort
    cases i.split <;> rfl

theorem append_sep_inj {α : Type} {c : α} {a b x y : List α} (ha : c ∉ a) (hb : c ∉ b)
    (h : a ++ c :: x = b ++ c :: y) : a = b ∧ x = y := by
  induction a generalizing b with
  | nil =>
    cases b with
    | nil => exact ⟨rfl, (List.cons.inj h).2⟩
    | cons d ds => exact absurd (List.cons.inj h).1 (List.ne_of_not_mem_cons hb)
  | cons e es ih =>
    cases b with
    | nil => exact absurd (List.cons.inj h).1.symm (List.ne_of_not_mem_cons ha)
    | cons d ds =>
      obtain ⟨rfl, h'⟩ := List.cons.inj h
      obtain ⟨rfl, hxy⟩ := ih (List.not_mem_of_not_mem_cons ha) (List.not_mem_of_not_mem_cons hb) h'
      exact ⟨rfl, hxy⟩

/-- Origin isolation: the pool key is injective on (port, scheme, host) for ports and schemes
    that contain no dot (decimal ports, URL schemes) — two different origins never map to the same
    key, so net/http never shares a pooled connection between them. -/
theorem C19_pool_key_injective (p1 s1 h1 p2 s2 h2 : Bytes)
    (hp1 : (46 : UInt8) ∉ p1) (hp2 : (46 : UInt8) ∉ p2) (hs1 : (46 : UInt8) ∉ s1) (hs2 : (46 : UInt8) ∉ s2)
    (h : poolKey p1 s1 h1 = poolKey p2 s2 h2) : p1 = p2 ∧ s1 = s2 ∧ h1 = h2 := by
  unfold poolKey at h
  simp only [List.cons_append, List.nil_append, List.append_assoc, List.cons.injEq, true_and] at h
  obtain ⟨e1, r1⟩ := append_sep_inj hp1 hp2 h
  simp only [List.cons.injEq, true_and] at r1
  obtain ⟨e2, r2⟩ := append_sep_inj hs1 hs2 r1
  exact ⟨e1, e2, List.append_cancel_right r2⟩

/-- a record is "usable" for the protocol decision when it is in service mode and supports at
    least one of h3 / h2 / http/1.1 -/
def usable (h : HttpsRec) : Bool :=
  h.priority ≠ 0 ∧ (h.alpn.contains bH3 ∨ ¬ h.noDefaultALPN ∨ h.alpn.contains bH2 ∨ h.alpn.contains bHttp11)

theorem h3Loop_cons (x : HttpsRec) (xs : List HttpsRec) :
    h3Loop (x :: xs) = if usable x then x.alpn.contains bH3 else h3Loop xs := by
  rw [h3Loop]
  unfold usable
  by_cases hp : x.priority = 0
  · rw [if_pos hp, if_neg fun h => (of_decide_eq_true h).1 hp]
  · rw [if_neg hp]
    by_cases h3 : x.alpn.contains bH3 = true
    · rw [if_pos h3, if_pos (decide_eq_true ⟨hp, .inl h3⟩), h3]
    · rw [if_neg h3]
      by_cases ho : ¬ x.noDefaultALPN ∨ x.alpn.contains bH2 ∨ x.alpn.contains bHttp11
      · rw [if_pos ho, if_pos (decide_eq_true ⟨hp, .inr ho⟩), (Bool.not_eq_true _).mp h3]
      · rw [if_neg ho, if_neg fun h => (of_decide_eq_true h).2.elim h3 ho]

theorem h3Loop_iff (l : List HttpsRec) :
    h3Loop l = true ↔ ∃ h, l.find? usable = some h ∧ h.alpn.contains bH3 = true := by
  induction l with
  | nil => exact ⟨nofun, fun ⟨_, h, _⟩ => nomatch h⟩
  | cons x xs ih =>
    rw [h3Loop_cons, List.find?_cons]
    cases usable x
    · exact ih
    · exact ⟨fun h => ⟨x, rfl, h⟩, fun ⟨_, h, h'⟩ => Option.some.inj h ▸ h'⟩

/-- HTTP/3 is chosen only when an HTTP/3 round-tripper exists and the most-preferred usable HTTPS
    record offers h3. -/
theorem C19_h3 (i : In) :
    useH3 i = true ↔ i.hasH3 = true ∧ ∃ h, i.https.find? usable = some h ∧ h.alpn.contains bH3 = true := by
  unfold useH3
  rw [Bool.and_eq_true, h3Loop_iff]

theorem of_keep {set : List Bytes} {mustHave : Bool} {h : HttpsRec} (hk : keep set mustHave h = true) :
    h.priority ≠ 0 ∧ ((¬ mustHave ∧ h.alpn = []) ∨ (¬ h.noDefaultALPN ∧ set.contains bHttp11) ∨
      ∃ p ∈ set, h.alpn.contains p = true) := by
  unfold keep at hk
  by_cases hp : h.priority = 0
  · rw [if_pos hp] at hk
    cases hk
  · refine ⟨hp, Decidable.or_iff_not_imp_left.mpr fun h1 => Decidable.or_iff_not_imp_left.mpr fun h2 => ?_⟩
    rw [if_neg hp, if_neg h1, if_neg h2] at hk
    obtain ⟨p, hp, hps⟩ := List.any_eq_true.mp hk
    exact ⟨p, by simpa using hps, by simpa using hp⟩

/-- The records handed to the dialer are all in service mode and compatible with the chosen protocol
    family: with HTTP/3 every one lists h3; otherwise every one lists h2 or http/1.1, or keeps the
    default ALPN (http/1.1), or lists no ALPN at all. Nothing else of a record is changed. -/
theorem C19_filter (i : In) :
    (∀ h ∈ filtered i, h ∈ i.https ∧ h.priority ≠ 0) ∧
    (useH3 i = true → ∀ h ∈ filtered i, h.alpn.contains bH3 = true) ∧
    (useH3 i = false → ∀ h ∈ filtered i,
        h.alpn = [] ∨ h.noDefaultALPN = false ∨ h.alpn.contains bH2 = true ∨ h.alpn.contains bHttp11 = true) := by
  unfold filtered
  refine ⟨fun h hh => ?_, fun hu h hh => ?_, fun hu h hh => ?_⟩
  · split at hh <;> exact ⟨(List.mem_filter.mp hh).1, (of_keep (List.mem_filter.mp hh).2).1⟩
  · rw [if_pos hu] at hh
    rcases (of_keep (List.mem_filter.mp hh).2).2 with h1 | h2 | ⟨p, hp, hc⟩
    · exact absurd rfl h1.1
    · exact absurd h2.2 (by decide)
    · cases List.mem_singleton.mp hp
      exact hc
  · rw [if_neg (ne_true_of_eq_false hu)] at hh
    rcases (of_keep (List.mem_filter.mp hh).2).2 with h1 | h2 | ⟨p, hp, hc⟩
    · exact .inl h1.2
    · exact .inr (.inl (Bool.not_eq_true _ ▸ h2.1))
    · rcases List.mem_cons.mp hp with rfl | hp
      · exact .inr (.inr (.inl hc))
      · cases List.mem_singleton.mp hp
        exact .inr (.inr (.inr hc))

/-- non-vacuity: two origins on one address get different keys -/
example : poolKey b443 bHttps [97] ≠ poolKey b443 bHttps [98] := by decide

end Transport
