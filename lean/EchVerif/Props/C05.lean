import EchVerif.Lemmas.Conn
import EchVerif.Lemmas.Hello
/-
  C05 — without ECH acceptance the connection is passed through unmodified.
-/
open Wire TLS
namespace ECH

/-- Byte-for-byte: for ANY buffer the parser accepts, the re-marshalled record carries exactly the
    ClientHello structure `body` that was read — the input minus `after` (bytes following the
    extensions inside the handshake message) and `trail` (bytes following the message), which are
    the only bytes the parser ignores — under a record header whose version is legacy_version. -/
theorem C05_passthrough_bytes (buf : Bytes) (h : Hello) (hp : parseClientHello buf = .ok h)
    (hl : buf.length < 65536) :
    ∃ body after trail,
      buf = u8 1 ++ (u24 (body ++ after).length ++ (body ++ after)) ++ trail ∧
      h.marshal = .ok (u8 0x16 ++ u16 h.legacyVersion ++
                       (u16 (4 + body.length) ++ (u8 1 ++ (u24 body.length ++ body)))) := by
  obtain ⟨after, trail, hbuf, _, hr, _⟩ := parseClientHello_inv hp
  refine ⟨h.body, after, trail, hbuf, marshalRec_ok.mpr ⟨_, marshalBody_false hr, ?_, rfl⟩⟩
  -- the body is a part of `buf`, four bytes in
  have := congrArg List.length hbuf
  simp only [List.length_append, u8_length, u24_length] at this
  omega

/-- Canonical hellos (nothing after the extensions, nothing after the message — every hello a TLS
    stack emits): the forwarded record is the client's handshake message verbatim; only record-header
    bytes 1–2 (the legacy record version) are normalised. -/
theorem C05_passthrough_canonical (body : Bytes) (h : Hello)
    (hp : parseClientHello (u8 1 ++ (u24 body.length ++ body)) = .ok h)
    (hl : body.length + 4 < 65536)
    (hcanon : ∀ b a t, u8 1 ++ (u24 body.length ++ body) = u8 1 ++ (u24 (b ++ a).length ++ (b ++ a)) ++ t →
              marshalBody false h = .ok b → a = [] ∧ t = []) :
    h.marshal = .ok (u8 0x16 ++ u16 h.legacyVersion ++
      (u16 (u8 1 ++ (u24 body.length ++ body)).length ++ (u8 1 ++ (u24 body.length ++ body)))) := by
  have hl24 : body.length < 16777216 :=
    Nat.lt_trans (Nat.lt_of_le_of_lt (Nat.le_add_right _ 4) hl) (by decide)
  obtain ⟨after, hpt, hr, _⟩ := parseClientHello_framed hl24 hp
  obtain ⟨rfl, _⟩ := hcanon h.body after [] (by rw [← hpt, List.append_nil]) (marshalBody_false hr)
  -- with nothing ignored, the body the parser read is the whole of `body`
  obtain rfl : body = h.body := by rw [hpt, List.append_nil]
  have : (u8 1 ++ (u24 h.body.length ++ h.body)).length = 4 + h.body.length := by
    rw [List.length_append, List.length_append, u8_length, u24_length, ← Nat.add_assoc]
  rw [this]
  exact marshalRec_ok.mpr ⟨_, marshalBody_false hr, Nat.add_comm _ 4 ▸ hl, rfl⟩

/-- When is a hello passed through rather than decrypted or aborted: no ECH extension, or no keys,
    or no TLS 1.3 in supported_versions (first hello). -/
theorem C05_when_passthrough (H : Hpke) (st : St) (h : Hello)
    (hc : h.d.ech = none ∨ st.keys = [] ∨ h.d.tls13 = false) :
    process H st h false = .ok (none, st) := by
  unfold process processCore
  simp only [Bool.false_eq_true, if_false]
  cases he : h.d.ech with
  | none => rfl
  | some e =>
    rcases hc with hc | hc | hc
    · simp [he] at hc
    · simp [hc]
    · simp [hc]

/-- … and no matching key (GREASE / unknown config id / other suite): every key is skipped, the
    hello is passed through and no HPKE state is created. -/
theorem C05_no_matching_key (H : Hpke) (st : St) (h : Hello) (e : EchExt) (he : h.d.ech = some e)
    (hk : ∀ k ∈ st.keys, ∀ cfg, configSpec k.config = some cfg →
            cfg.id ≠ e.configId ∨ ¬ cfg.suites.any (fun s => s.kdf = e.kdf ∧ s.aead = e.aead)) :
    process H st h false = .ok (none, st) := by
  have hloop : keyLoop H st h e st.keys = .next :=
    keyLoop_next_iff.mpr fun k hkm => tryKey_skip fun cfg hc => .inl (hk k hkm cfg hc)
  unfold process processCore
  simp only [Bool.false_eq_true, if_false, he]
  split
  · rfl
  · rw [hloop]

/-- A passthrough NewConn leaves both directions in passthrough mode and holds exactly the
    re-marshalled outer hello for the backend; no HPKE context exists. -/
theorem C05_passthrough_conn (H : Hpke) (keys : List Key) (t : Tr) (r : NewResult)
    (hr : newConn H keys t = r) (hok : r.err = none) (hna : r.st.accepted = false) :
    ∃ record t1 outer, readRecord t = (record, none, t1) ∧
      parseClientHello (record.drop 5) = .ok outer ∧
      outer.marshal = .ok r.st.readBuf ∧ r.st.readPT = true ∧ r.st.writePT = true ∧
      r.st.writeBuf = [] ∧ r.st.ctx = none ∧ r.tr = t1 := by
  subst hr
  obtain ⟨record, t1, _, ⟨_, _, hr, _⟩ | ⟨hrr, outer, _, hpo, ⟨hr, hm⟩ | ⟨_, _, _, hr, _⟩⟩⟩ :=
    newConn_cases H keys t <;> rw [hr] at hok hna ⊢
  · cases hok -- abort
  · exact ⟨record, t1, outer, hrr, hpo, hm, rfl, rfl, rfl, rfl, rfl⟩ -- passthrough
  · cases hna -- accepted

end ECH
