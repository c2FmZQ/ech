import EchVerif.Lemmas.SpecRefine
import EchVerif.Lemmas.Conn
/-
  C03 — an accepted inner hello is reconstructed byte-exactly.
-/
open Wire TLS
namespace ECH

/-- Appendix B substitution, characterised: for an outer hello with pairwise distinct extension
    types (true of every legal hello), a successful substitution of the marker's reference list
    yields exactly the outer extensions whose type is referenced, in outer order; the references
    are precisely the types of that block (hence in order, not repeated, all present in the outer
    hello) and none of them is encrypted_client_hello or ech_outer_extensions. -/
theorem C03_expand_characterisation (want : Bytes) (outer res : List Ext)
    (hnd : (outer.map (·.typ)).Nodup)
    (h : refsLoopF want.length want outer = .ok res) :
    ∃ refs, refTypes want.length want = some refs ∧
      res = outer.filter (fun e => refs.contains e.typ) ∧ res.map (·.typ) = refs ∧
      ∀ t ∈ refs, t ≠ 0xfe0d ∧ t ≠ 0xfd00 := by
  obtain ⟨ts, h1, h2⟩ := refsLoopF_refines h
  obtain ⟨a, b, c⟩ := refsLoop_ok h2
  exact ⟨ts, h1, b ▸ sublist_eq_filter (·.typ) a hnd, b, c⟩

/-- Without the distinctness hypothesis the block is still an order-preserving sub-list of the outer
    extensions (nothing invented, nothing reordered) whose types are exactly the references. -/
theorem C03_expand_sublist (want : Bytes) (outer res : List Ext)
    (h : refsLoopF want.length want outer = .ok res) :
    ∃ refs, refTypes want.length want = some refs ∧ res.Sublist outer ∧ res.map (·.typ) = refs := by
  obtain ⟨ts, h1, h2⟩ := refsLoopF_refines h
  obtain ⟨a, b, _⟩ := refsLoop_ok h2
  exact ⟨ts, h1, a, b⟩

/-- The extension list of the reconstructed hello: every inner extension other than the marker is
    kept in place; the marker (at most one) is replaced, in place, by the block of referenced outer
    extensions — nothing else added, dropped or reordered. -/
theorem C03_expand_in_place (outer inner res : List Ext) (seen : Bool)
    (h : expandExts outer inner seen = .ok res) :
    (res = inner ∧ ∀ e ∈ inner, e.typ ≠ 0xfd00) ∨
    (seen = false ∧ ∃ pre m post want rest block,
      inner = pre ++ m :: post ∧ m.typ = 0xfd00 ∧
      (∀ e ∈ pre, e.typ ≠ 0xfd00) ∧ (∀ e ∈ post, e.typ ≠ 0xfd00) ∧
      readLP8 m.data = some (want, rest) ∧ refsLoopF want.length want outer = .ok block ∧
      res = pre ++ block ++ post) := by
  fun_induction expandExts outer inner seen generalizing res
  all_goals cases h
  case case1 => exact .inl ⟨rfl, nofun⟩
  case case3 e es seen hne r hr ih => -- an ordinary extension
    rcases ih r hr with ⟨rfl, h2⟩ | ⟨hs, pre, m, post, want, rest, block, rfl, h2, h3, h4, h5, h6, rfl⟩
    · exact .inl ⟨rfl, List.forall_mem_cons.mpr ⟨hne, h2⟩⟩
    · exact .inr ⟨hs, e :: pre, m, post, want, rest, block, rfl, h2, List.forall_mem_cons.mpr ⟨hne, h3⟩, h4, h5, h6, rfl⟩
  case case8 e es seen hm hseen want rest hw block hb r hr ih => -- the marker
    rcases ih r hr with ⟨rfl, h2⟩ | ⟨hs, _⟩
    · exact .inr ⟨by simpa using hseen, [], e, r, want, rest, block, rfl, Decidable.not_not.mp hm, nofun, h2, hw, hb, rfl⟩
    · cases hs

/-- What `decodeInner` returns, field by field: the decrypted encoding's version, random, cipher
    suites and compression methods; the OUTER hello's legacy_session_id; the expanded extension
    list; and ServerName / ALPN / … derived from that reconstructed list. -/
theorem C03_reconstruct_fields (outer inner : Hello) (pt : Bytes) (h : decodeInner outer pt = .ok inner) :
    ∃ h0, parseClientHello (u8 1 ++ (u24 pt.length ++ pt)) = .ok h0 ∧
      inner.legacyVersion = h0.legacyVersion ∧ inner.random = h0.random ∧
      inner.sessionId = outer.sessionId ∧ inner.cipherSuites = h0.cipherSuites ∧
      inner.compression = h0.compression ∧
      expandExts outer.exts h0.exts false = .ok inner.exts ∧
      parseExtensions inner.exts = .ok inner.d := by
  obtain ⟨h0, _, _, _, hp, _, hx, hd, _, rfl⟩ := decodeInner_ok h
  exact ⟨h0, hp, rfl, rfl, rfl, rfl, rfl, hx, hd⟩

/-- A reconstructed inner hello always has an extensions field (it carries at least the ECH
    extension of type inner), so the `noExt` form of pre-TLS-1.3 hellos never reaches the backend
    as an accepted inner hello. -/
theorem C03_inner_has_extension_field (outer inner : Hello) (pt : Bytes) (h : decodeInner outer pt = .ok inner) :
    inner.noExt = false := by
  obtain ⟨h0, _, _, _, hp, hty, _, _, _, rfl⟩ := decodeInner_ok h
  exact noExt_of_ech (h := h0) hp (by simpa using congrArg Option.isSome hty)

/-- Byte-exactness of the record handed to the backend: the marshalled inner hello is the TLS
    record (type 22, version = legacy_version) carrying one ClientHello message whose body is
    exactly  version ‖ random ‖ <session id> ‖ <suites> ‖ <compression> ‖ <extensions> , each
    vector with its length prefix, the extensions being the plain encodings of `inner.exts` in
    order — no padding, nothing else. -/
theorem C03_marshal_exact (inner : Hello)
    (hx : ∀ e ∈ inner.exts, e.data.length < 65536)
    (hs : inner.sessionId.length < 256) (hc : inner.cipherSuites.length < 65536)
    (hm : inner.compression.length < 256) (he : (encExts inner.exts).length < 65536)
    (hne : inner.noExt = false)
    (body : Bytes)
    (hb : body = u16 inner.legacyVersion ++ inner.random ++ (u8 inner.sessionId.length ++ inner.sessionId) ++
            (u16 inner.cipherSuites.length ++ inner.cipherSuites) ++
            (u8 inner.compression.length ++ inner.compression) ++
            (u16 (encExts inner.exts).length ++ encExts inner.exts))
    (hl : body.length + 4 < 65536) :
    inner.marshal = .ok (u8 0x16 ++ u16 inner.legacyVersion ++
      (u16 (4 + body.length) ++ (u8 1 ++ (u24 body.length ++ body)))) :=
  marshalRec_ok.mpr ⟨body, marshalBody_ok.mpr
    ⟨_, putExts_false.mpr ⟨hx, rfl⟩, ⟨hs, hc, hm, he⟩, hb.trans (Hello.bodyWith_of_ext hne _).symm⟩, by omega, rfl⟩

/-- The names reported by an accepted Conn are those of the reconstructed inner hello. -/
theorem C03_names_from_inner (H : Hpke) (keys : List Key) (t : Tr) (i : Hello)
    (hi : (newConn H keys t).st.inner = some i) :
    (newConn H keys t).st.serverName = i.d.serverName ∧ (newConn H keys t).st.alpn = i.d.alpn := by
  simp [St.serverName, St.alpn, hi]

/-- **Refinement to the draft-level specification.** Whenever the model reconstructs an inner hello
    from a decrypted `EncodedClientHelloInner` `pt` and marshals it to the record `rec` handed to the
    backend, `rec` is exactly `Spec.specInner pt sid outerExtensions` — the ClientHelloInner the client
    committed to according to draft-ietf-tls-esni 5.1, computed on bytes by a definition written
    from the draft's text, independently of the model of client_hello.go: padding stripped, the outer
    hello's legacy_session_id substituted, each `ech_outer_extensions` reference replaced in place by
    the referenced outer extension. (`outer.exts` in 16-bit range: true of every parsed hello.) -/
theorem C03_refines_spec (outer inner : Hello) (pt rec : Bytes)
    (hor : ∀ e ∈ outer.exts, e.typ < 65536 ∧ e.data.length < 65536)
    (h : decodeInner outer pt = .ok inner) (hm : inner.marshal = .ok rec) :
    Spec.specInner pt outer.sessionId (encExts outer.exts) = some rec := by
  obtain ⟨h0, newExt, d, hl, hp, hty, hexp, _, _, rfl⟩ := decodeInner_ok h
  have hne : h0.noExt = false := noExt_of_ech hp (by simpa using congrArg Option.isSome hty)
  obtain ⟨after, rfl, hr, _, hz⟩ := parseClientHello_framed hl hp
  have haz : (after.all fun x => x == 0) = true := hz hty
  obtain ⟨body, hmb, _, rfl⟩ := marshalRec_ok.mp hm
  obtain ⟨eb, hput, _, rfl⟩ := marshalBody_ok.mp hmb
  obtain ⟨_, rfl⟩ := putExts_false.mp hput
  simp only [Spec.specInner, fields_body hr hne, haz, extsOf_encExts hr.exts, extsOf_encExts hor,
    expand_expandExts hexp, encExts_raw, recordOf_spec]
  simp only [not_true_eq_false, if_false]
  rw [Hello.bodyWith_of_ext (h := { h0 with sessionId := outer.sessionId, exts := newExt, d := d }) hne]

/-- non-vacuity of the characterisation: a concrete outer list and reference list -/
example : refsLoop [10, 13] [⟨0, [1]⟩, ⟨10, [2]⟩, ⟨43, []⟩, ⟨13, [3]⟩] = .ok [⟨10, [2]⟩, ⟨13, [3]⟩] := by
  simp [refsLoop]

end ECH
