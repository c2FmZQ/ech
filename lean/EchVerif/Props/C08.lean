import EchVerif.Lemmas.NoPanic
import EchVerif.Lemmas.Pipe
/-
  C08 — no peer input can crash, hang or balloon a Conn.
  The model carries every Go index / slice / nil-dereference of the code as an explicit `.panic`
  outcome, so "never panics" is a real obligation about all inputs, keys and HPKE worlds.
-/
open Wire TLS
namespace ECH

/-- what NewConn can be refused with: the classes of a first hello, or the transport's error -/
theorem newConn_err {H : Hpke} {keys : List Key} {t : Tr} {e : Err} (he : (newConn H keys t).err = some e) :
    e ∈ [.decode, .illegal, .unexpected, .other, .decrypt] ∨ ∃ x, e = .io x := by
  revert he
  fun_cases newConn H keys t
  all_goals intro he
  all_goals cases he
  case case1 hrr => -- reading the record fails: a transport error or `decode`
    rcases (readRecord_result hrr).2.2 e rfl with h | h
    · exact .inl (h ▸ List.mem_cons_self ..)
    · exact .inr h
  case case2 => exact .inl (by decide) -- not a handshake record: `unexpected`
  case case3 he => exact .inl (handle_err _ false nofun nofun e he)
  case case4 inner _ _ he => -- marshalling fails
    cases inner <;> exact .inl (marshal_err.mono (by decide) e he)

/-- NewConn never panics, whatever the client sends and whatever the keys are. -/
theorem C08_no_panic_newConn (H : Hpke) (keys : List Key) (t : Tr) :
    (newConn H keys t).err ≠ some .panic := by
  intro h
  rcases newConn_err h with h | ⟨_, h⟩
  · revert h
    decide
  · cases h

/-- Conn.Write never panics, whatever the backend writes, in any state. -/
theorem C08_no_panic_write (st : St) (t : Tr) (b : Bytes) : (connWrite st t b).err ≠ some .panic := by
  have hloop : ∀ fuel blen st t, (writeLoop fuel blen st t).err ≠ some .panic := by
    intro fuel blen st t
    fun_induction writeLoop fuel blen st t
    case case5 hi => exact fun h => absurd (Option.some.inj h) (inspectWrite_err.ne_panic hi)
    case case7 ih => exact ih
    all_goals simp -- no error, `decode`, or the transport's
  unfold connWrite
  split
  · cases h : (t.write b).2.1 <;> simp [h]
  · exact hloop _ _ _ _

/-- A Read can return an error stored by an earlier Read, so "this Read does not panic" needs "no
    panic is stored"; and the nil dereferences of the retry path are excluded by the invariant. -/
def Safe (st : St) : Prop := Inv st ∧ st.readErr ≠ some .panic

/-- Conn.Read never panics in any state satisfying the invariant, and keeps the state safe. -/
theorem C08_no_panic_read (H : Hpke) (st : St) (t : Tr) (n : Nat) (hs : Safe st) :
    (connRead H st t n).err ≠ some .panic ∧ Safe (connRead H st t n).st := by
  obtain ⟨hi, hre⟩ := hs
  suffices h : (connRead H st t n).err ≠ some .panic ∧ (connRead H st t n).st.readErr ≠ some .panic from
    ⟨h.1, inv_read H t n hi, h.2⟩
  rcases connRead_cases H st t n with h | ⟨_, _, _, r, oe, t1, hrr, ⟨_, hr1, h⟩ | ⟨pt, h⟩⟩ <;> rw [h]
  · exact deliver_safe n t hre -- no record is read
  · -- a retried hello: `retry = 1`, so the invariant gives the two hellos `handle` dereferences
    have hin := (hi.retry_pt (Nat.le_of_eq hr1.symm)).2
    have hout := (hi.inner_outer hin).1
    rcases readRetry_cases H n st t1 r with ⟨e, he, h⟩ | ⟨_, i, c, cfg, buf, oe, h, hm, _⟩ <;> rw [h]
    · -- `handle` fails
      simpa using (handle_err { st with readPT := true } true (fun _ => hin) (fun _ => hout)).ne_panic he
    · -- the hello is replaced, or marshalling it fails
      refine deliver_safe n t1 ?_
      rcases hm with ⟨_, rfl⟩ | ⟨e, hm, rfl, _⟩
      · exact hre
      · exact fun h => absurd (Option.some.inj h) (marshal_err.ne_panic hm)
  · -- a record, with `readRecord`'s error if any
    refine deliver_safe n t1 fun h => ?_
    rcases (readRecord_result hrr).2.2 .panic h with h | ⟨_, h⟩ <;> cases h

/-- No panic in ANY run: every observable result of every operation of every interleaving of Reads,
    Writes and arriving client data after a successful NewConn is data or a non-panic error. -/
theorem C08_no_panic_run (H : Hpke) (keys : List Key) (t : Tr) (ops : List Op)
    (hok : (newConn H keys t).err = none) :
    ∀ o ∈ (runOps H ⟨(newConn H keys t).st, (newConn H keys t).tr⟩ ops).2, o.err ≠ some .panic := by
  refine (runOps_induct H (P := fun s => Safe s.st) (Q := fun o => o.err ≠ some .panic) ?_ ops ⟨_, _⟩
    ⟨inv_newConn hok, ?_⟩).2
  · intro s op hs
    cases op with
    | read n => exact (C08_no_panic_read H s.st s.tr n hs).symm
    | write b =>
      obtain ⟨_, _, _, hf, _⟩ := connWrite_frame s.st s.tr b
      exact ⟨⟨inv_write _ _ hs.1, by simpa [stepOp, hf] using hs.2⟩, C08_no_panic_write s.st s.tr b⟩
    | feed cs => exact ⟨hs, by simp [stepOp]⟩
  · -- NewConn stores no error
    obtain ⟨_, _, _, ⟨_, _, hr, _⟩ | ⟨_, _, _, _, ⟨hr, _⟩ | ⟨_, _, _, hr, _⟩⟩⟩ :=
      newConn_cases H keys t <;> rw [hr] at hok ⊢
    · cases hok -- abort
    · simp -- passthrough
    · simp -- accepted

/-- Progress: a Read with a non-empty buffer on a transport whose chunks are non-empty returns at
    least one byte or an error — never (0, nil), so a caller looping on Read cannot spin. -/
theorem C08_progress (H : Hpke) (st : St) (t : Tr) (n : Nat) (hn : 0 < n)
    (hch : ∀ c ∈ t.chunks, c ≠ []) :
    (connRead H st t n).data ≠ [] ∨ (connRead H st t n).err ≠ none := by
  rcases connRead_cases H st t n with h | ⟨_, _, _, r, oe, t1, hrr, ⟨_, _, h⟩ | ⟨pt, h⟩⟩ <;> rw [h]
  · exact deliver_progress hn (.inr (.inr hch)) -- no record is read
  · -- a retried hello
    rcases readRetry_cases H n st t1 r with ⟨e, _, h⟩ | ⟨_, i, _, _, buf, oe, h, hm, _⟩ <;> rw [h]
    · right; simp -- `handle` fails
    · apply deliver_progress hn -- the hello is replaced, or marshalling it fails
      rcases hm with ⟨hm, _⟩ | ⟨e, _, rfl, _⟩
      · -- a marshalled record is never empty
        exact .inl fun hb : buf = [] => by simpa [hb] using marshalRec_length hm
      · exact .inr (.inl (by simp))
  · -- a record: read without error it is never empty
    apply deliver_progress hn
    cases oe with
    | some e => exact .inr (.inl (by simp))
    | none =>
      have := ((readRecord_result hrr).2.1 rfl).1
      exact .inl fun hb : r = [] => by simp [hb] at this

/-- Memory bound on the write side: after any successful Write at most one incomplete record is
    withheld, i.e. fewer than 5 + (2^14 + 256) bytes. -/
theorem C08_write_bound (st : St) (t : Tr) (b : Bytes) (hopen : t.closed = false)
    (hok : (connWrite st t b).err = none) :
    (connWrite st t b).st.writeBuf = [] ∨ Incomplete (connWrite st t b).st.writeBuf :=
  (connWrite_pipe hopen hok).2.2.2.2

/-- Memory bound on the read side: one Read never leaves more than one record (at most
    5 + 2^14 + 256 bytes read from the client, or one re-marshalled hello of at most 5 + 65535 bytes)
    in the buffer, unless more was already buffered. -/
theorem C08_read_bound (H : Hpke) (st : St) (t : Tr) (n : Nat) :
    (connRead H st t n).st.readBuf.length ≤ max st.readBuf.length 65540 := by
  -- what is left of a buffer of at most 65540 bytes
  have hmx : ∀ {a : Nat}, a ≤ 65540 → a - n ≤ max st.readBuf.length 65540 :=
    fun h => Nat.le_trans (Nat.sub_le _ _) (Nat.le_trans h (Nat.le_max_right _ _))
  rcases connRead_cases H st t n with h | ⟨_, hb, _, r, oe, t1, hrr, ⟨_, _, h⟩ | ⟨pt, h⟩⟩ <;> rw [h]
  · rw [deliver_st, List.length_drop] -- no record is read
    exact Nat.le_trans (Nat.sub_le _ _) (Nat.le_max_left _ _)
  · -- a retried hello
    rcases readRetry_cases H n st t1 r with ⟨e, _, h⟩ | ⟨_, i, _, _, buf, oe, h, hm, _⟩ <;> rw [h]
    · rw [hb] -- `handle` fails: the buffer stays empty
      exact Nat.zero_le _
    · rw [deliver_st, List.length_drop] -- the hello is replaced, or marshalling it fails
      refine hmx ?_
      rcases hm with ⟨hm, _⟩ | ⟨_, _, _, rfl⟩
      · -- a marshalled record carries a 16-bit length
        obtain ⟨body, _, hl, rfl⟩ := marshalRec_ok.mp hm
        rw [recordOf_length]
        omega
      · exact Nat.zero_le _
  · rw [deliver_st, List.length_drop] -- a record
    exact hmx (Nat.le_trans (readRecord_result hrr).1 (by decide))

end ECH
