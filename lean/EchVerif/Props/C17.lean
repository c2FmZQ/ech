import EchVerif.Dial.Config
/-
  C17 — Dial never weakens the caller's ECH or server-name requirements.
-/
namespace Dial

/-- a call made on behalf of `cfg`: same server name, ECH list not dropped -/
structure Keeps (cfg : Cfg) (c : Call) : Prop where
  serverName : c.cfg.serverName = cfg.serverName
  ech : cfg.ech ≠ none → c.cfg.ech ≠ none

theorem dialOne_calls (addr : Bytes) (cfg : Cfg) (outs : List Outcome) :
    ∀ c ∈ (dialOne addr cfg outs).1, c.addr = addr ∧ Keeps cfg c := by
  have one : ∀ c ∈ [Call.mk addr cfg], c.addr = addr ∧ Keeps cfg c :=
    List.forall_mem_singleton.mpr ⟨rfl, rfl, id⟩
  have two : ∀ retry, ∀ c ∈ [Call.mk addr cfg, ⟨addr, { cfg with ech := some (.bytes retry) }⟩],
      c.addr = addr ∧ Keeps cfg c :=
    fun _ => List.forall_mem_cons.mpr ⟨⟨rfl, rfl, id⟩, List.forall_mem_singleton.mpr ⟨rfl, rfl, fun _ => nofun⟩⟩
  unfold dialOne
  split
  · exact one
  · exact one
  · exact one
  · split
    · exact one
    · split <;> exact two _

theorem dialSeq_calls (d : Dialer) (caller : Cfg) (ts : List Target) (outs : List Outcome) :
    ∀ c ∈ (dialSeq d caller ts outs).1, ∃ t cfg, attemptCfg d caller t = some cfg ∧ Keeps cfg c := by
  induction ts generalizing outs with
  | nil => exact fun _ h => nomatch h
  | cons t ts ih =>
    rw [dialSeq]
    split
    · exact ih outs
    · cases hcfg : attemptCfg d caller t with
      | none => exact ih outs
      | some cfg =>
        dsimp only
        have here := dialOne_calls t.addr cfg outs
        generalize dialOne t.addr cfg outs = r at here ⊢
        rcases r with ⟨calls, _ | _, rest⟩ <;> dsimp only at here ⊢
        · exact fun c hc => (List.mem_append.mp hc).elim (fun hc => ⟨t, cfg, hcfg, (here c hc).2⟩) (ih rest c)
        · exact fun c hc => ⟨t, cfg, hcfg, (here c hc).2⟩

theorem attemptCfg_some {d : Dialer} {caller cfg : Cfg} {t : Target} (h : attemptCfg d caller t = some cfg) :
    cfg = ⟨attemptSN d caller t, attemptECH d caller t⟩ ∧ ¬ (d.requireECH = true ∧ attemptECH d caller t = none) := by
  unfold attemptCfg at h
  split at h
  · cases h
  · exact ⟨(Option.some.inj h).symm, ‹_›⟩

theorem baseCfg_serverName (d : Dialer) (caller : Cfg) : (baseCfg d caller).serverName = caller.serverName := by
  unfold baseCfg
  split <;> rfl

/-- With RequireECH no connection attempt is ever made with a config that lacks an ECH list —
    for every resolution result, caller config, PublicName setting and outcome script. -/
theorem C17_require (d : Dialer) (caller : Cfg) (ts : List Target) (outs : List Outcome)
    (hr : d.requireECH = true) : ∀ c ∈ (dialSeq d caller ts outs).1, c.cfg.ech ≠ none := by
  intro c hc
  obtain ⟨t, cfg, hcfg, hk⟩ := dialSeq_calls d caller ts outs c hc
  obtain ⟨rfl, hne⟩ := attemptCfg_some hcfg
  exact hk.ech fun h => hne ⟨hr, h⟩

/-- The config of the FIRST attempt to an address: a caller-supplied list or ServerName is never
    replaced; otherwise the list is the one of the HTTPS record that produced the address (else the
    PublicName bootstrap list, else none) and the server name is the host the caller named. -/
theorem C17_caller_wins (d : Dialer) (caller : Cfg) (t : Target) (cfg : Cfg)
    (h : attemptCfg d caller t = some cfg) :
    (caller.serverName ≠ [] → cfg.serverName = caller.serverName) ∧
    (caller.serverName = [] → cfg.serverName = t.host) ∧
    (∀ l, caller.ech = some l → cfg.ech = some l) ∧
    (caller.ech = none → ∀ b, t.ech = some b → cfg.ech = some (.bytes b)) ∧
    (caller.ech = none → t.ech = none → d.publicName ≠ [] → cfg.ech = some .boot) ∧
    (caller.ech = none → t.ech = none → d.publicName = [] → cfg.ech = none) := by
  obtain ⟨rfl, _⟩ := attemptCfg_some h
  refine ⟨?_, ?_, ?_, ?_, ?_, ?_⟩
  · intro hn; simp [attemptSN, baseCfg_serverName, hn]
  · intro hn; simp [attemptSN, baseCfg_serverName, hn]
  · intro l hl; simp [attemptECH, baseCfg, hl]
  · intro hn b hb; simp [attemptECH, hn, hb]
  · intro hn ht hp; simp [attemptECH, baseCfg, hn, ht, hp]
  · intro hn ht hp; simp [attemptECH, baseCfg, hn, ht, hp]

/-- An ECH rejection carrying retry configs triggers exactly one more call, to the same address,
    with exactly those configs; whatever that second call returns is final (a second rejection is
    returned, not retried). A rejection without retry configs is final at once. -/
theorem C17_retry_once (addr : Bytes) (cfg : Cfg) (retry : Bytes) (o : Outcome) (rest : List Outcome) :
    (retry ≠ [] → (dialOne addr cfg (.reject retry :: o :: rest)).1 =
        [⟨addr, cfg⟩, ⟨addr, { cfg with ech := some (.bytes retry) }⟩] ∧
      (dialOne addr cfg (.reject retry :: o :: rest)).2.1 = decide (o = .ok) ∧
      (dialOne addr cfg (.reject retry :: o :: rest)).2.2 = rest) ∧
    (retry = [] → dialOne addr cfg (.reject retry :: o :: rest) = ([⟨addr, cfg⟩], false, o :: rest)) := by
  refine ⟨fun hr => ?_, fun hr => ?_⟩
  · simp only [dialOne, hr, if_false]
    cases o <;> simp
  · simp [dialOne, hr]

/-- The caller's configuration is a value the model never writes: attempts work on copies. (The
    aliasing of `tls.Config.Clone` is observed at run time by the campaign.) -/
theorem C17_no_mutation (d : Dialer) (caller : Cfg) (ts : List Target) (outs : List Outcome) :
    ∀ c ∈ (dialSeq d caller ts outs).1, caller.serverName ≠ [] → c.cfg.serverName = caller.serverName := by
  intro c hc hn
  obtain ⟨t, cfg, hcfg, hk⟩ := dialSeq_calls d caller ts outs c hc
  rw [hk.serverName, (C17_caller_wins d caller t cfg hcfg).1 hn]

/-- non-vacuity: RequireECH with no list anywhere refuses the attempt instead of dialling without ECH -/
example : attemptCfg ⟨true, []⟩ ⟨[], none⟩ ⟨[104], [1], none, false⟩ = none := by decide

end Dial
