import EchVerif.Lemmas.DNS
/-
  C12 — decoding any DNS message terminates, within bounds, without panicking.
  The decoder model is a total Lean function (structural recursion on the section counts and on
  explicit fuel for names); the theorems below show that the fuel never is the reason a name is
  rejected and bound the work by the message length.
-/
open Wire
namespace DNS

/-- Name decoding always stops by itself within 511 loop iterations, whatever the bytes and
    whatever the compression pointers (cycles, chains): every amount of fuel ≥ 511 gives the same
    answer, so the model's 520 is never what ends a decode. Each iteration follows one pointer
    (at most 255 per name) or reads one label (at most 255 octets per name). -/
theorem C12_name_bounded (raw : Bytes) (w : Win) (fuel : Nat) (h : 511 ≤ fuel) :
    nameLabelsF raw fuel false w w 0 0 = readName raw w := by
  -- both sides succeed exactly on the `Labels` within the budget
  apply Option.ext
  intro (n, c)
  -- `h` is what `nameLabelsF_iff` asks for at `p = s = 0`, `maxPointers + maxNameOctets < fuel + 0 + 0`, by
  -- unfolding: 511 = 255 pointers + 255 octets + 1 for the iteration that reads the root label
  rw [readName, nameLabelsF_iff (Nat.zero_le _) (Nat.zero_le _) h,
    nameLabelsF_iff (Nat.zero_le _) (Nat.zero_le _) (by decide)]

/-- Decoded names respect RFC 1035 2.3.4: at most 255 octets of labels. -/
theorem C12_name_size (raw : Bytes) (w w' : Win) (n : Name) (h : readName raw w = some (n, w')) :
    octets n ≤ 255 :=
  have ⟨_, _, _, h⟩ := readName_iff.mp h
  h

/-- Record data has the Go dynamic type implied by its record type: net.IP for A/AAAA, string for
    NS/CNAME/PTR, HTTPS for type 65, []Option for OPT, …, []byte for every other type. -/
theorem C12_types (raw : Bytes) (typ : Nat) (data : Win) (d : RData)
    (h : decodeRData raw typ data = some d) : TypeMatches typ d := by
  -- Every arm of the type switch has `typ = …` (and `typ ≠ …` for the arms above it) at hand. Where
  -- the arm calls a decoder of its own, each branch of that decoder that succeeds builds the one kind.
  revert h
  fun_cases decodeRData raw typ data <;> intro h
  case case1 ht _ => -- A
    cases h
    exact .inl ht
  case case3 ht => exact .of_map h fun ⟨_, _⟩ => ht -- NS / CNAME / PTR
  case case4 ht => -- SOA
    revert h
    fun_cases decSOA raw data <;> intro h <;> cases h
    exact ht
  case case5 ht => -- MX
    revert h
    fun_cases decMX raw data <;> intro h
    · cases h
    · exact .of_map h fun ⟨_, _⟩ => ht
  case case6 ht => exact .of_map h fun _ => ht -- TXT
  case case7 ht _ => -- AAAA
    cases h
    exact .inr ht
  case case9 ht _ => -- LOC
    cases h
    exact ht
  case case11 ht => -- SRV
    revert h
    fun_cases decSRV raw data <;> intro h
    case case4 => exact .of_map h fun ⟨_, _⟩ => ht
    all_goals cases h
  case case12 ht => -- CERT
    revert h
    fun_cases decCERT data <;> intro h <;> cases h
    exact ht
  case case13 ht => exact .of_map h fun _ => ht -- OPT
  case case14 ht => -- DS
    revert h
    fun_cases decDS data <;> intro h <;> cases h
    exact ht
  case case15 ht => -- RRSIG
    revert h
    fun_cases decRRSIG raw data <;> intro h
    case case8 => exact .of_map h fun ⟨_, _⟩ => ht
    all_goals cases h
  case case16 ht => exact .of_map h fun ⟨_, _⟩ => ht -- NSEC
  case case17 ht => -- DNSKEY
    revert h
    fun_cases decDNSKEY data <;> intro h <;> cases h
    exact ht
  case case18 ht => -- SVCB
    revert h
    fun_cases decSVCB raw data <;> intro h
    case case3 => exact .of_map h fun _ => ht
    all_goals cases h
  case case19 ht => -- HTTPS
    obtain ⟨_, _, _, _, _, _, rfl⟩ := decHTTPS_inv h
    exact ht
  case case20 ht => -- URI
    revert h
    fun_cases decURI data <;> intro h <;> cases h
    exact ht
  case case21 ht => -- CAA
    revert h
    fun_cases decCAA data <;> intro h <;> cases h
    exact ht
  case case22 => -- any other type
    cases h
    simp [TypeMatches, *]
  all_goals cases h

/-- Work is linear in the message length: a decoded message with q questions and r records needs
    at least 12 + 5q + 11r bytes, so lying section counts cannot make the decoder do more than
    len/11 record iterations (each bounded by C12_name_bounded and its RDLENGTH). -/
theorem C12_cost (raw : Bytes) (m : Message) (h : decode raw = some m) :
    12 + 5 * m.question.length + 11 * (m.answer.length + m.authority.length + m.additional.length) ≤ raw.length := by
  obtain ⟨hl, qd, an, ns, ar, w1, w2, w3, w4, hq, ha, hb, hc⟩ := decode_inv h
  obtain ⟨q1, ⟨_, _, q2⟩, _⟩ := decodeQuestions_inv hq
  obtain ⟨a1, ⟨_, _, a2⟩, _⟩ := decodeRRs_inv ha
  obtain ⟨b1, ⟨_, _, b2⟩, _⟩ := decodeRRs_inv hb
  obtain ⟨c1, ⟨_, _, c2⟩, _⟩ := decodeRRs_inv hc
  -- the four sections together advance the window behind the header by at least that much
  have hlen : _ = raw.length - 12 := (((q2.trans a2).trans b2).trans c2).length.trans List.length_drop
  omega

/-- The resolver's type assertions (`a.Data.(string)` for CNAME, `v.(dns.HTTPS)`, `v.(net.IP)`)
    can never fail on a decoded message: in every section, a type-5 record carries a name, a
    type-65 record an HTTPS value, type-1/28 records an IP, and the OPT record []Option. -/
theorem C12_resolver_safe (raw : Bytes) (m : Message) (h : decode raw = some m) :
    ∀ rr ∈ m.answer ++ m.authority ++ m.additional,
      (rr.typ = 5 → ∃ n, rr.data = .name n) ∧ (rr.typ = 65 → ∃ x, rr.data = .https x) ∧
      (rr.typ = 1 ∨ rr.typ = 28 → ∃ b, rr.data = .ip b) ∧ (rr.typ = 41 → ∃ o, rr.data = .opt o) := by
  intro rr hrr
  obtain ⟨_, w, w', _, hd⟩ := (decode_parts h).2 rr hrr
  obtain ⟨_, _, _, _, data, _, _, _, _, _, hd⟩ := decodeRR_inv hd
  refine ⟨fun ht => ?_, fun ht => ?_, fun ht => ?_, fun ht => ?_⟩
  · rw [decodeRData_name (.inr (.inl ht)), Option.map_eq_some_iff] at hd
    obtain ⟨_, _, hd⟩ := hd
    exact ⟨_, hd.symm⟩
  · rw [ht, decodeRData_https] at hd
    obtain ⟨_, _, _, x, _, _, hx⟩ := decHTTPS_inv hd
    exact ⟨x, hx⟩
  · rcases ht with ht | ht
    · rw [ht, decodeRData_a] at hd
      split at hd
      · exact ⟨_, (Option.some.inj hd).symm⟩
      · cases hd
    · rw [ht, decodeRData_aaaa] at hd
      split at hd
      · exact ⟨_, (Option.some.inj hd).symm⟩
      · cases hd
  · rw [ht, decodeRData_opt, Option.map_eq_some_iff] at hd
    obtain ⟨_, _, hd⟩ := hd
    exact ⟨_, hd.symm⟩

/-- Lying section counts, decodes that FAIL included: however many records the header announces, the
    section loop starts at most len/11 + 1 record decodes (len/5 + 1 question decodes) before it has either
    finished or met a record that does not decode - never more than the count either, and exactly the
    count when the section decodes. `rrIters` / `qIters` are instrumented copies of the loops of
    `decodeRRs` / `decodeQuestions` (`Lemmas/DNS.lean`). With `C12_name_bounded` (≤ 511 steps per name)
    this bounds the work of a failing `DecodeMessage` as `C12_cost` does for a successful one. -/
theorem C12_cost_any (raw : Bytes) (n : Nat) (w : Win) :
    11 * rrIters raw n w ≤ w.b.length + 11 ∧ rrIters raw n w ≤ n ∧
    5 * qIters raw n w ≤ w.b.length + 5 ∧
    (∀ l w', decodeRRs raw n w = some (l, w') → rrIters raw n w = n) :=
  ⟨rrIters_bound raw n w, rrIters_le raw n w, qIters_bound raw n w, fun _ _ h => rrIters_ok h⟩

/-- non-vacuity: a header that announces 65535 answers over an empty rest costs one attempt -/
example : rrIters [] 65535 ⟨12, []⟩ = 1 := by
  simp [rrIters, decodeRR, readName, nameLabelsF, nameFuel]

end DNS
