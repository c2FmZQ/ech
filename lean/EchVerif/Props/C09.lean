import EchVerif.Lemmas.KeyLoop
/-
  C09 — ECH acceptance depends only on holding the right key, not on the other keys.
-/
open Wire TLS
namespace ECH

/-- If every key other than the target yields `continue` for this hello, the loop over ANY list
    containing the target — at any position, with any repetitions — behaves exactly like the loop
    over the target alone. -/
theorem C09_superset (H : Hpke) (st : St) (h : Hello) (ech : EchExt) (keys : List Key) (t : Key)
    (hin : t ∈ keys) (hother : ∀ k ∈ keys, k ≠ t → tryKey H st h ech k = .next) :
    keyLoop H st h ech keys = keyLoop H st h ech [t] := by
  have hsingle : keyLoop H st h ech [t] = tryKey H st h ech t := by
    simp only [keyLoop]
    cases tryKey H st h ech t <;> rfl
  rw [hsingle]
  -- the loop returns the result of the first key that does not continue; that can only be `t`
  rcases keyLoop_cases H st h ech keys with ⟨h1, h2⟩ | ⟨pre, k, post, e, _, hne, hk⟩
  · rw [h1, h2 t hin]
  · have : k = t := Decidable.byContradiction fun hkt => hne (hother k (by simp [e]) hkt)
    rw [hk, this]

/-- First hello: a valid key to which the hello was NOT sealed never disturbs the loop — it yields
    `continue`, whatever its config id, suites and public name. Valid: its private key parses for
    its KEM. Not sealed to it: the world holds no seal under its private key. -/
theorem C09_other_key_continues_first (H : Hpke) (st : St) (h : Hello) (ech : EchExt) (k : Key) (aad : Bytes)
    (hfirst : st.ctx = none) (henc : ech.enc.length > 0) (haad : h.marshalAAD = .ok aad)
    (hvalid : ∀ cfg, configSpec k.config = some cfg → H.privOk.contains (cfg.kem, k.priv) = true)
    (hnoseal : ∀ s ∈ H.seals, s.priv ≠ k.priv) :
    tryKey H st h ech k = .next := by
  -- a context set up for `k` carries `k.priv`, under which nothing was sealed, so nothing opens
  have hopen : ∀ cfg c, candCtx H st ech k cfg = .ok c → H.open c aad ech.payload = none := by
    intro cfg c hc
    obtain ⟨rfl, _⟩ := candCtx_fresh hfirst hc
    exact open_none_of_no_seal fun s hs hm => hnoseal s hs hm.1
  fun_cases tryKey H st h ech k
  case case1 | case2 | case3 | case6 => rfl -- the branches of `tryKey` that say `continue`
  case case4 cfg hcfg _ _ _ hc =>
    -- no context: not for want of a valid key (`hvalid`) or of an encapsulated key (`henc`)
    revert hc
    fun_cases candCtx H st ech k cfg <;> intro hc <;> cases hc
    case case2 hp => exact absurd (hvalid cfg hcfg) hp
    case case3 => rfl
    case case5 he => exact absurd henc he
  case case5 ha => rw [haad] at ha; cases ha
  -- in the two branches left the payload has opened, which `hopen` excludes. Binders: config and its
  -- equation, the two tests passed, context `c` and `candCtx` equation `hc`, aad and `marshalAAD` equation
  -- `ha`, plaintext and `open` equation `ho`, the public name test
  case case7 _ _ _ _ c hc _ ha _ ho _ | case8 _ _ _ _ c hc _ ha _ ho _ =>
    rw [haad] at ha
    cases ha
    rw [hopen _ c hc] at ho
    cases ho

/-- Retried hello: only the key that opened the first hello is ever tried; all others continue. -/
theorem C09_other_key_continues_retry (H : Hpke) (st : St) (h : Hello) (ech : EchExt) (k : Key) (c0 : Ctx)
    (hctx : st.ctx = some c0) (hne : k.config ≠ st.ctxConfig) :
    tryKey H st h ech k = .next := by
  exact tryKey_skip fun _ _ => .inr ⟨by rw [hctx]; rfl, fun e => hne e.symm⟩

/-- Converse: with no seal under any held private key, the hello is never accepted. -/
theorem C09_converse (H : Hpke) (st : St) (h : Hello) (ech : EchExt)
    (hnone : ∀ k ∈ st.keys, ∀ s ∈ H.seals, s.priv ≠ k.priv) (hfirst : st.ctx = none) :
    ∀ pt c cfgb, keyLoop H st h ech st.keys ≠ .opened pt c cfgb := by
  intro pt c cfgb hk
  obtain ⟨k, hkm, hto⟩ := keyLoop_mem hk nofun
  obtain ⟨cfg, c1, aad, _, _, _, _, hcand, _, hopen, _⟩ := tryKey_opened hto
  obtain ⟨rfl, _⟩ := candCtx_fresh hfirst hcand
  obtain ⟨s, hs, s1, _⟩ := open_some hopen
  exact hnone k hkm s hs s1

/-- non-vacuity: a two-key world in which the second key opens and the first continues -/
example : ∃ (H : Hpke), H.seals.length = 1 ∧ H.privOk.length = 2 := ⟨{ privOk := [(32, [1]), (32, [2])], seals := [⟨[2], 32, 1, 1, [], [9], 0, [], [7], [8]⟩] }, rfl, rfl⟩

end ECH
