import EchVerif.Lemmas.Config
/-
  C11 — ECH configs and config lists encode to the standard format and round-trip.
-/
open Wire
namespace ECH

/-- field ranges of the Go struct (uint16 / uint8 fields) -/
def ConfigSpec.InRange (c : ConfigSpec) : Prop :=
  c.id < 256 ∧ c.kem < 65536 ∧ SuitesInRange c.suites

/-- what `Config.Spec()` returns for an encoding of `c`: same fields, derived maximum_name_length -/
def ConfigSpec.normal (c : ConfigSpec) : ConfigSpec :=
  { c with maxNameLen := min (c.publicName.length + 16) 255 }

/-- Round trip, with arbitrary trailing bytes: the parse consumes exactly the encoding
    (never reads beyond the declared length) and yields the same id, KEM, key, suites, name. -/
theorem C11_roundtrip (c : ConfigSpec) (e rest : Bytes) (hr : c.InRange) (hv : c.version = 0xfe0d)
    (h : c.bytes = some e) : parseConfig (e ++ rest) = some (c.normal, rest) := by
  obtain ⟨hid, hkem, hsu⟩ := hr
  obtain ⟨_, hn, hpk, hcs, hl, rfl⟩ := bytes_ok h
  rw [hv, parseConfig_frame (by omega) hl, if_neg (by simp),
    parseContents_contents c hid hkem hsu hpk hcs hn, ← hv]
  rfl

/-- `Bytes` succeeds exactly when the name has 1..255 bytes and the contents fit the 16-bit
    length prefixes. -/
theorem C11_bytes_defined (c : ConfigSpec) :
    (c.bytes).isSome ↔
      (1 ≤ c.publicName.length ∧ c.publicName.length ≤ 255 ∧ c.publicKey.length < 65536 ∧
       11 + c.publicKey.length + 4 * c.suites.length + c.publicName.length < 65536) := by
  have hs := putSuites_length c.suites
  have hc := contents_length c
  constructor
  · intro h
    obtain ⟨e, he⟩ := Option.isSome_iff_exists.mp h
    obtain ⟨h1, h2, h3, _, h5, _⟩ := bytes_ok he
    omega
  · intro ⟨h1, h2, h3, h4⟩
    rw [bytes_of c h1 h2 h3 (by omega) (by omega)]
    rfl

/-- ConfigList / ParseConfigList round trip. -/
theorem C11_list_roundtrip (cs : List ConfigSpec) (encs : List Bytes) (l : Bytes)
    (hr : ∀ c ∈ cs, c.InRange ∧ c.version = 0xfe0d)
    (he : encodeAll cs = some encs)
    (hl : configList encs = some l) :
    parseConfigList l = some (cs.map ConfigSpec.normal) := by
  unfold configList at hl
  have key : ∀ (cs : List ConfigSpec) (encs : List Bytes),
      (∀ c ∈ cs, c.InRange ∧ c.version = 0xfe0d) →
      encodeAll cs = some encs →
      ∀ fuel, encs.flatten.length ≤ fuel →
        parseConfigsF fuel encs.flatten = some (cs.map ConfigSpec.normal) := by
    intro cs
    induction cs with
    | nil =>
      intro encs _ he fuel _
      simp [encodeAll] at he; subst he
      cases fuel <;> simp [parseConfigsF]
    | cons c cs' ih =>
      intro encs hr he fuel hf
      obtain ⟨e, es', hce, hes, rfl⟩ := encodeAll_cons.mp he
      have hc := hr c (by simp)
      have hrt := C11_roundtrip c e es'.flatten hc.1 hc.2 hce
      have hne : e ≠ [] := by
        obtain ⟨_, _, _, _, _, rfl⟩ := bytes_ok hce
        simp [u16]
      cases fuel with
      | zero =>
        simp at hf
        exact absurd hf.1 hne
      | succ n =>
        have hlen : es'.flatten.length ≤ n := by
          have : 0 < e.length := List.length_pos_iff.mpr hne
          rw [List.flatten_cons, List.length_append] at hf
          omega
        have hne2 : e ++ es'.flatten ≠ [] := by simp [hne]
        simp only [List.flatten_cons, parseConfigsF, hne2, if_false, hrt, List.map_cons]
        rw [ih es' (fun c hc => hr c (by simp [hc])) hes n hlen]
  have := readLP16_lp16 hl []
  simp only [List.append_nil] at this
  unfold parseConfigList
  rw [this]
  exact key cs encs hr he _ (Nat.le_refl _)

/-- Every strict prefix of a valid encoding is rejected. -/
theorem C11_truncation_rejected (c : ConfigSpec) (e p : Bytes) (h : c.bytes = some e)
    (hp : p <+: e) (hne : p ≠ e) : parseConfig p = none := by
  obtain ⟨t, rfl⟩ := hp
  obtain ⟨_, _, _, _, hl, he⟩ := bytes_ok h
  cases hq : parseConfig p with
  | none => rfl
  | some r =>
    -- both `p` and the encoding start with a 16-bit length; it is the same one, so `p` holds all
    -- of the contents already
    obtain ⟨ss, rfl, hss, _⟩ := parseConfig_inv (rest := r.2) hq
    simp only [List.append_assoc] at he
    obtain ⟨_, he⟩ := List.append_inj he (by simp)
    obtain ⟨hu, hb⟩ := List.append_inj he (by simp)
    have hlen := congrArg List.length hb
    rw [← u16_inj hss hl hu] at hlen
    simp only [List.length_append] at hlen
    have : t = [] := List.length_eq_zero_iff.mp (by omega)
    simp [this] at hne

/-- The parser never reads beyond the declared length: the unread suffix is returned
    untouched and the parse depends only on the consumed prefix. -/
theorem C11_no_overread (b : Bytes) (c : ConfigSpec) (rest : Bytes)
    (h : parseConfig b = some (c, rest)) :
    ∃ consumed, b = consumed ++ rest ∧ ∀ junk, parseConfig (consumed ++ junk) = some (c, junk) := by
  obtain ⟨ss, rfl, hss, hc⟩ := parseConfig_inv h
  exact ⟨_, rfl, fun junk => by rw [parseConfig_frame (by omega) hss, if_neg (by simp), hc]; rfl⟩

/-- The encoding is a well-formed draft section 4 ECHConfig (independent grammar), provided the
    key and the suite list are non-empty as the draft requires (NewConfig: 32-byte key, 3 suites). -/
theorem C11_wellformed (c : ConfigSpec) (e : Bytes) (hv : c.version = 0xfe0d)
    (hk : 1 ≤ c.publicKey.length) (hs : 1 ≤ c.suites.length) (h : c.bytes = some e) :
    Spec.isECHConfig e = true := by
  obtain ⟨h1, h2, hpk, hcs, hl, rfl⟩ := bytes_ok h
  rw [hv]
  exact isECHConfig_of hl (contentsOk_contents c hpk hcs h2 hk hs h1)

/-! ### non-vacuity: a concrete spec meets every hypothesis above and really encodes -/
def exampleSpec : ConfigSpec :=
  ⟨0xfe0d, 7, 0x20, List.replicate 32 1, [⟨1, 3⟩, ⟨1, 2⟩, ⟨1, 1⟩], 0, [0x61, 0x2e, 0x62]⟩

example : exampleSpec.InRange ∧ exampleSpec.version = 0xfe0d ∧ 1 ≤ exampleSpec.publicKey.length ∧
    1 ≤ exampleSpec.suites.length ∧ (exampleSpec.bytes).isSome := by
  refine ⟨⟨by decide, by decide, ?_⟩, rfl, by decide, by decide, by decide⟩
  intro s hs
  simp [exampleSpec] at hs
  rcases hs with rfl | rfl | rfl <;> decide

example : ∃ e, exampleSpec.bytes = some e ∧ e.length = 62 := ⟨_, rfl, by decide⟩

end ECH
