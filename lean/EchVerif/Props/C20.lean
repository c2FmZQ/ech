import EchVerif.Publish
/-
  C20 — PublishECH changes exactly the ech parameter of exactly the requested records.
-/
namespace Publish

theorem splitSp_ne_nil (s : Bytes) : splitSp s ≠ [] := by
  cases s with
  | nil => simp [splitSp]
  | cons c cs =>
    simp only [splitSp]
    split
    · simp
    · split <;> simp

/-- `splitSp` on a non-empty string; the `[]` arm of its inner match is dead (`splitSp_ne_nil`) -/
theorem splitSp_cons (c : UInt8) (cs : Bytes) :
    ∃ t ts, splitSp cs = t :: ts ∧ splitSp (c :: cs) = if c = 32 then [] :: t :: ts else (c :: t) :: ts := by
  cases h : splitSp cs with
  | nil => exact absurd h (splitSp_ne_nil cs)
  | cons t ts => exact ⟨t, ts, rfl, by simp [splitSp, h]⟩

theorem splitSp_nospace (t : Bytes) (h : (32 : UInt8) ∉ t) : splitSp t = [t] := by
  induction t with
  | nil => rfl
  | cons c cs ih =>
    rw [List.mem_cons, not_or] at h
    simp [splitSp, Ne.symm h.1, ih h.2]

theorem splitSp_append (t : Bytes) {rest : Bytes} (h : (32 : UInt8) ∉ t) :
    splitSp (t ++ 32 :: rest) = t :: splitSp rest := by
  induction t with
  | nil => simp [splitSp]
  | cons c cs ih =>
    rw [List.mem_cons, not_or] at h
    simp [splitSp, Ne.symm h.1, ih h.2]

theorem splitSp_tokens (s : Bytes) : ∀ t ∈ splitSp s, (32 : UInt8) ∉ t := by
  induction s with
  | nil => simp [splitSp]
  | cons c cs ih =>
    obtain ⟨t, ts, h1, h2⟩ := splitSp_cons c cs
    rw [h1, List.forall_mem_cons] at ih
    rw [h2]
    split
    · exact List.forall_mem_cons.mpr ⟨List.not_mem_nil, List.forall_mem_cons.mpr ih⟩
    · rename_i hc
      exact List.forall_mem_cons.mpr ⟨by simp [ih.1, Ne.symm hc], ih.2⟩

theorem split_join {l : List Bytes} (hne : l ≠ []) (h : ∀ t ∈ l, (32 : UInt8) ∉ t) : splitSp (joinSp l) = l := by
  induction l with
  | nil => exact absurd rfl hne
  | cons t ts ih =>
    rw [List.forall_mem_cons] at h
    cases ts with
    | nil => exact splitSp_nospace t h.1
    | cons t2 ts2 =>
      simp only [joinSp]
      rw [List.append_assoc, List.singleton_append, splitSp_append t h.1, ih (by simp) h.2]

theorem isEch_echToken (new : Bytes) : isEch (echToken new) = true := by rfl

theorem dropWhile_quote (l : Bytes) (h : l.head? ≠ some 34) : (34 :: l).dropWhile (· == 34) = l := by
  rw [List.dropWhile_cons_of_pos (by rfl)]
  cases l with
  | nil => rfl
  | cons a as => exact List.dropWhile_cons_of_neg fun hb => h (congrArg some (eq_of_beq hb))

theorem trimQuotes_quoted (new : Bytes) (h1 : new.head? ≠ some 34) (h2 : new.getLast? ≠ some 34) :
    trimQuotes ([34] ++ new ++ [34]) = new := by
  cases new with
  | nil => rfl
  | cons a as =>
    unfold trimQuotes
    rw [show [34] ++ (a :: as) ++ [34] = 34 :: ((a :: as) ++ [34]) from rfl, dropWhile_quote (a :: as ++ [34]) h1,
      List.reverse_concat, dropWhile_quote _ (List.head?_reverse ▸ h2), List.reverse_reverse]

theorem rewrite_eq_none (value new : Bytes) : rewrite value new = none ↔ new = oldEch (splitSp value) := by
  unfold rewrite
  split <;> simp [*]

/-- The rewrite law: when PublishECH updates a record, the stored parameter string tokenises (on
    single spaces) to the old tokens minus every `ech=…` token, in their original order, followed
    by exactly one `ech="<new>"` — all other service parameters preserved, in order. -/
theorem C20_rewrite (value new v' : Bytes) (hn : (32 : UInt8) ∉ new) (h : rewrite value new = some v') :
    splitSp v' = (splitSp value).filter (fun t => ¬ isEch t) ++ [echToken new] := by
  unfold rewrite at h
  split at h
  · simp at h
  · simp only [Option.some.injEq] at h
    subst h
    apply split_join (List.concat_ne_nil _ _)
    intro t ht
    rcases List.mem_append.mp ht with ht | ht
    · exact splitSp_tokens value t (List.mem_filter.mp ht).1
    · rw [List.mem_singleton.mp ht]
      simpa [echToken, echPrefix] using hn

/-- … so the result holds exactly one ech entry, and it carries the new value. -/
theorem C20_one_ech (value new v' : Bytes) (hn : (32 : UInt8) ∉ new) (h : rewrite value new = some v') :
    (splitSp v').filter isEch = [echToken new] := by
  rw [C20_rewrite value new v' hn h]
  simp [List.filter_filter, isEch_echToken]

theorem publishOne_others (value new : Bytes) (hn : (32 : UInt8) ∉ new) :
    (splitSp (publishOne value new)).filter (fun t => ¬ isEch t) =
      (splitSp value).filter (fun t => ¬ isEch t) := by
  unfold publishOne
  split
  · rename_i v hv
    rw [C20_rewrite value new v hn hv]
    simp [List.filter_filter, isEch_echToken]
  · rfl

theorem oldEch_publishOne (value new : Bytes) (hn : (32 : UInt8) ∉ new) (hq1 : new.head? ≠ some 34)
    (hq2 : new.getLast? ≠ some 34) : oldEch (splitSp (publishOne value new)) = new := by
  unfold publishOne
  split
  · rename_i v hv
    -- the token appended is the last ech token, so it is the one read back
    rw [C20_rewrite value new v hn hv, oldEch, List.filter_append,
      List.filter_cons_of_pos (isEch_echToken new), List.filter_nil, List.getLast?_concat]
    exact trimQuotes_quoted new hq1 hq2
  · rename_i hv
    exact ((rewrite_eq_none value new).mp hv).symm

/-- Idempotence: publishing the same list again is a no-op — no write when the published value is
    already current. (`new` is standard base64: no spaces, no quotes.) -/
theorem C20_idempotent (value new v' : Bytes) (hn : (32 : UInt8) ∉ new) (hq1 : new.head? ≠ some 34)
    (hq2 : new.getLast? ≠ some 34) (hne : new ≠ []) (h : rewrite value new = some v') :
    rewrite v' new = none := by
  -- `hne` is not needed: an empty value is written as `ech=""` and reads back empty
  have := oldEch_publishOne value new hn hq1 hq2
  simp only [publishOne, h] at this
  exact (rewrite_eq_none v' new).mpr this.symm

theorem publishSeq_append (value : Bytes) (ns ms : List Bytes) :
    publishSeq value (ns ++ ms) = publishSeq (publishSeq value ns) ms := by
  induction ns generalizing value with
  | nil => rfl
  | cons a as ih => exact ih _

/-- History, frame part: after any sequence of publishes with changing config lists (some of them
    no-ops because the value was current), the stored value still holds every other service
    parameter of the original value, in the original order. -/
theorem C20_history_others (value : Bytes) (news : List Bytes) (hn : ∀ n ∈ news, (32 : UInt8) ∉ n) :
    (splitSp (publishSeq value news)).filter (fun t => ¬ isEch t) =
      (splitSp value).filter (fun t => ¬ isEch t) := by
  induction news generalizing value with
  | nil => rfl
  | cons n ns ih =>
    rw [List.forall_mem_cons] at hn
    exact (ih _ hn.2).trans (publishOne_others value n hn.1)

/-- History, effect part: whatever was published before, after the last publish the record's ech
    value is the last config list published (standard base64: non-empty, no space, no quote). -/
theorem C20_history_last (value : Bytes) (ns : List Bytes) (n : Bytes) (hn : (32 : UInt8) ∉ n)
    (hq1 : n.head? ≠ some 34) (hq2 : n.getLast? ≠ some 34) (hne : n ≠ []) :
    oldEch (splitSp (publishSeq value (ns ++ [n]))) = n := by
  -- `hne` is not needed, as in `C20_idempotent`
  rw [publishSeq_append]
  exact oldEch_publishOne _ n hn hq1 hq2

/-- … and a further publish of that same list writes nothing. -/
theorem C20_history_then_current (value : Bytes) (ns : List Bytes) (n : Bytes) (hn : (32 : UInt8) ∉ n)
    (hq1 : n.head? ≠ some 34) (hq2 : n.getLast? ≠ some 34) (hne : n ≠ []) :
    rewrite (publishSeq value (ns ++ [n])) n = none :=
  (rewrite_eq_none _ n).mpr (C20_history_last value ns n hn hq1 hq2 hne).symm

/-- Exactly one result per requested record, in request order. -/
theorem C20_results (f : Faults) (new : Bytes) (ts : List Tgt) (s : PState) (c : CallSt) :
    (publishLoop f new ts s c).1.length = ts.length := by
  induction ts generalizing s c with
  | nil => rfl
  | cons t ts ih =>
    simp only [publishLoop]
    split <;> simp [ih]

/-- Frame, one target: a PATCH is issued only for a record found under the requested (zone, name),
    only when its ech value differs from the new one, and the PATCHed value is the rewrite of the
    value the publisher holds for it; a record whose value is current (or that is missing) causes no
    request at all. -/
theorem C20_frame (f : Faults) (new : Bytes) (s : PState) (c : CallSt) (t : Tgt) :
    ((oneTarget f new s c t).2.1.patches = s.patches ∧ (oneTarget f new s c t).2.1.zones = s.zones) ∨
    (∃ r v, lookupRec c.data t = some r ∧ rewrite r.value new = some v ∧ (oneTarget f new s c t).1 = .updated ∧
      (oneTarget f new s c t).2.1.patches = s.patches ++ [(r.id, v)] ∧
      (oneTarget f new s c t).2.1.zones = applyPatch s.zones r.id v) := by
  unfold oneTarget
  cases lookupRec c.data t with
  | none => exact .inl ⟨rfl, rfl⟩
  | some r =>
    dsimp only
    cases hv : rewrite r.value new with
    | none => exact .inl ⟨rfl, rfl⟩
    | some v =>
      dsimp only
      by_cases hf : f s.reqs = true
      · rw [if_pos hf]
        exact .inl ⟨rfl, rfl⟩
      · rw [if_neg hf]
        exact .inr ⟨r, v, rfl, hv, rfl, rfl, rfl⟩

/-- a PATCH touches only the record with that id, and only its value -/
theorem C20_patch_local (zones : List Zone) (rid v : Bytes) :
    (applyPatch zones rid v).map (·.name) = zones.map (·.name) ∧
    ∀ z ∈ applyPatch zones rid v, ∀ r ∈ z.recs, r.id ≠ rid →
      ∃ z0 ∈ zones, r ∈ z0.recs := by
  refine ⟨by simp [applyPatch, Function.comp_def], ?_⟩
  intro z hz r hr hne
  simp only [applyPatch, List.mem_map] at hz
  obtain ⟨z0, hz0, rfl⟩ := hz
  simp only [List.mem_map] at hr
  obtain ⟨r0, hr0, hre⟩ := hr
  split at hre
  · rename_i hid
    subst hre
    exact absurd hid hne
  · subst hre
    exact ⟨z0, hz0, hr0⟩

/-- non-vacuity: a concrete parameter string is rewritten -/
example : (rewrite [97, 108, 112, 110, 61, 104, 50] [81, 85, 74, 68]).isSome = true := by decide

end Publish
