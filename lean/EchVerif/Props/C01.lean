import EchVerif.Lemmas.Pipe
/-
  C01 — split-mode ECH handshake completes end to end and routes on the inner hello.
  What is provable about the Conn (the premise TLS needs): each side sees exactly the bytes the
  handshake requires. That crypto/tls then completes, resumes and authenticates retry configs is
  observed on the real stack by the campaign (see DESIGN.md, "partial").
-/
open Wire TLS
namespace ECH

/-- First flight, ECH accepted, any chunking of the client's bytes, any read-buffer sizes: the
    backend reads the marshalled reconstructed inner hello (C03 says what that is) followed by
    exactly the client's bytes after its first record; nothing is sent to the client by reading. -/
theorem C01_first_flight (H : Hpke) (keys : List Key) (t : Tr) (ns : List Nat)
    (hok : (newConn H keys t).err = none) (hacc : (newConn H keys t).st.accepted = true) :
    ∃ inner record t1, (newConn H keys t).st.inner = some inner ∧ readRecord t = (record, none, t1) ∧
      record ++ t1.stream = t.stream ∧
      inner.marshal = .ok (newConn H keys t).st.readBuf ∧
      (readsRun H (newConn H keys t).st (newConn H keys t).tr ns).1.flatten ++
        (readsRun H (newConn H keys t).st (newConn H keys t).tr ns).2.1.readBuf ++
        (readsRun H (newConn H keys t).st (newConn H keys t).tr ns).2.2.stream
        = (newConn H keys t).st.readBuf ++ t1.stream ∧
      (readsRun H (newConn H keys t).st (newConn H keys t).tr ns).2.2.out = t.out := by
  have hpipe := readsRun_reads H ns (st := (newConn H keys t).st) (newConn H keys t).tr
  obtain ⟨record, t1, hrd, ⟨_, _, hr, _⟩ | ⟨hrr, _, _, _, ⟨hr, _⟩ | ⟨inner, _, _, hr, hm, _⟩⟩⟩ :=
    newConn_cases H keys t <;> rw [hr] at hok hacc hpipe ⊢
  · cases hok -- abort
  · cases hacc -- passthrough
  · -- accepted; `retry = 0`
    have hpipe := hpipe (.inl nofun)
    exact ⟨inner, record, t1, rfl, hrr, hrd.stream, hm, pending_reads hpipe, hpipe.out.trans hrd.out⟩

/-- Stale or absent ECH (not accepted): the public-name server reads the client's hello
    re-marshalled (C05: byte-identical for canonical hellos) followed by exactly the client's
    remaining bytes, and every byte it writes reaches the client unchanged and immediately. -/
theorem C01_stale (H : Hpke) (keys : List Key) (t : Tr) (ns : List Nat) (b : Bytes)
    (hok : (newConn H keys t).err = none) (hna : (newConn H keys t).st.accepted = false) :
    ∃ outer record t1, readRecord t = (record, none, t1) ∧
      parseClientHello (record.drop 5) = .ok outer ∧
      outer.marshal = .ok (newConn H keys t).st.readBuf ∧
      (readsRun H (newConn H keys t).st (newConn H keys t).tr ns).1.flatten ++
        (readsRun H (newConn H keys t).st (newConn H keys t).tr ns).2.1.readBuf ++
        (readsRun H (newConn H keys t).st (newConn H keys t).tr ns).2.2.stream
        = (newConn H keys t).st.readBuf ++ t1.stream ∧
      (t.closed = false →
        (connWrite (newConn H keys t).st (newConn H keys t).tr b).tr.out = t.out ++ b ∧
        (connWrite (newConn H keys t).st (newConn H keys t).tr b).st.writeBuf = []) := by
  have hpipe := readsRun_reads H ns (st := (newConn H keys t).st) (newConn H keys t).tr
  obtain ⟨record, t1, hrd, ⟨_, _, hr, _⟩ | ⟨hrr, outer, _, hpo, ⟨hr, hm⟩ | ⟨_, _, _, hr, _⟩⟩⟩ :=
    newConn_cases H keys t <;> rw [hr] at hok hna hpipe ⊢
  · cases hok -- abort
  · -- passthrough; `retry = 0`
    have hpipe := hpipe (.inl nofun)
    refine ⟨outer, record, t1, hrr, hpo, hm, pending_reads hpipe, fun hopen => ?_⟩
    simp [connWrite, hrd.closed.trans hopen, hrd.out]
  · cases hna -- accepted

/-- The names reported by the Conn are those of the hello the backend receives: the inner hello's
    when ECH is accepted, the outer hello's otherwise. -/
theorem C01_names (H : Hpke) (keys : List Key) (t : Tr) :
    (∀ i, (newConn H keys t).st.inner = some i →
        (newConn H keys t).st.serverName = i.d.serverName ∧ (newConn H keys t).st.alpn = i.d.alpn) ∧
    ((newConn H keys t).st.inner = none → ∀ o, (newConn H keys t).st.outer = some o →
        (newConn H keys t).st.serverName = o.d.serverName ∧ (newConn H keys t).st.alpn = o.d.alpn) := by
  refine ⟨fun i hi => by simp [St.serverName, St.alpn, hi], fun hn o ho => by simp [St.serverName, St.alpn, hn, ho]⟩

end ECH
