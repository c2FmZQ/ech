import EchVerif.Lemmas.DialLts
/-
  C18 — Dial attempts are ordered, bounded and leak-free; the first success wins.

  The theorems quantify over every target script (resolve error / refused / DialFunc succeeds /
  DialFunc fails, hangs until cancelled or times out), every number of workers and EVERY schedule
  of the feeder, the workers, the closer, the collector and the caller's cancellation
  (`run script (init n nW) ls = some s` for an arbitrary label list `ls`). Time is abstracted: a
  timer expiry is an always-enabled step, so "after ConcurrencyDelay", "within Timeout" and
  "promptly" are stated as enabledness/causality facts here and measured in virtual time by the
  harness (partial, see DESIGN.md).
-/
namespace DialLts

/-- Target order and pacing: at every reachable state the targets handed to workers so far are
    exactly 0, 1, …, k-1 in this order (k = the feeder's position), and no hand-off other than the
    first ever happened without a ConcurrencyDelay expiry, a wake-up caused by a failure, or the
    context ending since the previous one. -/
theorem C18_order_and_pacing (script : List Script) (nW : Nat) (hn : 0 < nW) (s : St) (h : Reach script nW s) :
    s.handoffs = List.range (fidx script.length s.feeder) ∧ s.badPace = false :=
  ⟨(reach_inv hn h).1.order, (reach_inv hn h).1.pace⟩

/-- Concurrency bound: the number of DialFunc calls in flight, and its maximum over the whole
    history, never exceeds the number of workers (MaxConcurrency). -/
theorem C18_concurrency (script : List Script) (nW : Nat) (hn : 0 < nW) (s : St) (h : Reach script nW s) :
    s.inflight ≤ nW ∧ s.maxInflight ≤ nW := by
  obtain ⟨ha, hb⟩ := reach_inv hn h
  refine ⟨?_, hb.maxi⟩
  rw [hb.infl, ← ha.len]
  exact List.countP_le_length

/-- Connections: every connection DialFunc ever produced is, at every moment, in exactly one
    place — still held by a worker that is about to hand it over, closed by Dial, or the one
    chosen as Dial's result. -/
theorem C18_connections (script : List Script) (nW : Nat) (hn : 0 < nW) (s : St) (h : Reach script nW s) (j : Nat) :
    s.workers.countP (holdsConn j) + s.closed.count j + (if s.ret = some (.conn j) then 1 else 0)
      = s.established.count j :=
  (reach_inv hn h).2.conns j

/-- … so once everything has finished, every established connection other than the returned one
    has been closed exactly once, and the returned one has not been closed. -/
theorem C18_connections_at_rest (script : List Script) (nW : Nat) (hn : 0 < nW) (s : St) (h : Reach script nW s)
    (ht : terminal s = true) (j : Nat) :
    s.closed.count j + (if s.ret = some (.conn j) then 1 else 0) = s.established.count j := by
  have := C18_connections script nW hn s h j
  have hall : ∀ (v : Nat) (y : Worker), s.workers[v]? = some y → y = Worker.exited := by
    simp only [terminal, Bool.and_eq_true] at ht
    exact all_exited ht.2
  rw [countP_all_exited (holdsConn j) rfl hall] at this
  omega

/-- The returned connection is one that DialFunc really established. -/
theorem C18_returned_was_established (script : List Script) (nW : Nat) (hn : 0 < nW) (s : St) (h : Reach script nW s)
    (k : Nat) (hr : s.ret = some (.conn k)) : k ∈ s.established := by
  have := C18_connections script nW hn s h k
  rw [if_pos hr] at this
  exact List.count_pos_iff.mp (by omega)

/-- The outcome is decided once: whatever the collector chose stays chosen. -/
theorem C18_outcome_once (script : List Script) (s s' : St) (l : Label) (r : Ret)
    (hr : s.ret = some r) (hs : step script s l = some s') : s'.ret = some r := by
  cases l with
  | parentCancel => obtain ⟨_, rfl⟩ := step_parentCancel hs; exact hr
  | feederGo => obtain ⟨_, _, rfl⟩ := step_feederGo hs; exact hr
  | handoff w => obtain ⟨_, _, _, rfl⟩ := step_handoff hs; exact hr
  | prep w => obtain ⟨_, _, _, rfl | rfl⟩ := step_prep hs <;> exact hr
  | finish w ok => obtain ⟨_, _, _, ⟨_, _, rfl⟩ | ⟨_, rfl⟩⟩ := step_finish hs <;> exact hr
  | errRecv w => obtain ⟨_, _, hn, rfl⟩ := step_errRecv hs; rw [hr] at hn; cases hn
  | errDrop w => obtain ⟨_, _, _, rfl⟩ := step_errDrop hs; exact hr
  | connRecv w => obtain ⟨_, _, hn, rfl⟩ := step_connRecv hs; rw [hr] at hn; cases hn
  | connClose w => obtain ⟨_, _, _, rfl⟩ := step_connClose hs; exact hr
  | workerExit w => obtain ⟨_, _, rfl⟩ := step_workerExit hs; exact hr
  | closeErr => obtain ⟨_, _, rfl⟩ := step_closeErr hs; exact hr
  | collectClosed => obtain ⟨hn, _, rfl⟩ := step_collectClosed hs; rw [hr] at hn; cases hn
  | collectCtx => obtain ⟨hn, _, rfl⟩ := step_collectCtx hs; rw [hr] at hn; cases hn
  | ret => obtain ⟨_, _, rfl⟩ := step_ret hs; exact hr

/-- Joined errors: when Dial returns the joined errors and the caller has not cancelled, the
    list holds exactly one error per target — nothing was dropped and nothing is duplicated. -/
theorem C18_errors_joined (script : List Script) (nW : Nat) (hn : 0 < nW) (s : St) (h : Reach script nW s)
    (ks : List Nat) (hr : s.ret = some (.errs ks)) (hp : s.parentDone = false) (j : Nat) :
    ks.count j = if j < script.length then 1 else 0 := by
  have := (reach_inv hn h).2.errsAll ks hr hp j
  rw [this]
  simp

/-- Attempts begun after the outcome is decided: once Dial has returned, its context is cancelled,
    so every attempt that begins afterwards begins under an already-cancelled context; the ghost
    flag recording a live-context attempt after the return is never raised. -/
theorem C18_late_attempts_cancelled (script : List Script) (nW : Nat) (hn : 0 < nW) (s : St) (h : Reach script nW s) :
    s.badLate = false ∧ (s.returned = true → s.ctxDone = true) :=
  ⟨(reach_inv hn h).1.late, fun hr => ((reach_inv hn h).1.retd hr).1⟩

/-- Prompt return on cancellation: whenever the context has ended and no outcome has been chosen
    yet, the collector can take the `ctx.Done` branch at once — it never waits for a worker. -/
theorem C18_cancel_enabled (script : List Script) (s : St) (hc : s.ctxDone = true) (hr : s.ret = none) :
    step script s .collectCtx = some { s with ret := some .ctxErr } := by
  dsimp only [step]; rw [hr, hc]; rfl

/-- No goroutine outlives the call indefinitely, part 1 — every schedule is finite: no execution
    of feeder, workers, closer and collector has more than 10·targets + workers + 4 steps
    (given that DialFunc returns, which `finish` models as always possible). -/
theorem C18_every_run_ends (script : List Script) (nW : Nat) (ls : List Label) (s : St)
    (hr : run script (init script.length nW) ls = some s) : ls.length ≤ 10 * script.length + nW + 4 := by
  have := run_measure (m := measure script.length) script
    (fun s s' l ha hs => ⟨invA_step script nW s s' l ha hs, measure_step script nW s s' l ha hs⟩)
    _ s ls (invA_init script nW) hr
  -- at the start: the feeder's 10 per target, 1 per idle worker, 1 + 2 + 1 for the closer, the collector and the caller
  have hf : fWeight script.length (init script.length nW).feeder ≤ 10 * script.length := by
    dsimp only [init]
    split
    · exact Nat.zero_le _
    · exact Nat.le_refl _
  have hm : measure script.length (init script.length nW)
      = fWeight script.length (init script.length nW).feeder + 1 + 2 + 1 + nW :=
    congrArg (_ + ·) (wSum_replicate nW)
  omega

/-- No goroutine outlives the call indefinitely, part 2 — no deadlock: in every reachable state in
    which something is still running (or Dial has not returned), some step of the system itself
    — not the caller's cancellation — is enabled. With part 1: every maximal execution ends in
    a state where Dial has returned and the feeder, every worker and the closer have finished. -/
theorem C18_no_deadlock (script : List Script) (nW : Nat) (hn : 0 < nW) (s : St) (h : Reach script nW s)
    (ht : terminal s = false) : ∃ l, isSystem l = true ∧ (step script s l).isSome = true :=
  progress script nW hn s (reach_inv hn h).1 ht

/-- At rest nothing of the system can move any more. -/
theorem C18_terminal_is_final (script : List Script) (nW : Nat) (hn : 0 < nW) (s : St) (h : Reach script nW s)
    (ht : terminal s = true) (l : Label) (hl : isSystem l = true) : step script s l = none := by
  cases hs : step script s l with
  | none => rfl
  | some s' =>
    exfalso
    simp only [terminal, Bool.and_eq_true, beq_iff_eq] at ht
    obtain ⟨⟨⟨hret, hec⟩, hf⟩, hall⟩ := ht
    have hex := all_exited hall
    have ha := (reach_inv hn h).1
    have hrs := (ha.retd hret).2
    cases l with
    | parentCancel => cases hl
    | feederGo => obtain ⟨_, hf', _⟩ := step_feederGo hs; rw [hf] at hf'; cases hf'
    | handoff w => obtain ⟨_, hf', _, _⟩ := step_handoff hs; rw [hf] at hf'; cases hf'
    | prep w => obtain ⟨_, hw, _⟩ := step_prep hs; cases hex w _ hw
    | finish w ok => obtain ⟨_, _, hw, _⟩ := step_finish hs; cases hex w _ hw
    | errRecv w => obtain ⟨_, hw, _, _⟩ := step_errRecv hs; cases hex w _ hw
    | errDrop w => obtain ⟨_, hw, _, _⟩ := step_errDrop hs; cases hex w _ hw
    | connRecv w => obtain ⟨_, hw, _, _⟩ := step_connRecv hs; cases hex w _ hw
    | connClose w => obtain ⟨_, hw, _, _⟩ := step_connClose hs; cases hex w _ hw
    | workerExit w => obtain ⟨hw, _, _⟩ := step_workerExit hs; cases hex w _ hw
    | closeErr => obtain ⟨he, _, _⟩ := step_closeErr hs; rw [hec] at he; cases he
    | collectClosed => obtain ⟨hn', _, _⟩ := step_collectClosed hs; rw [hn'] at hrs; cases hrs
    | collectCtx => obtain ⟨hn', _, _⟩ := step_collectCtx hs; rw [hn'] at hrs; cases hrs
    | ret => obtain ⟨_, hn', _⟩ := step_ret hs; rw [hret] at hn'; cases hn'

/-! non-vacuity: a concrete schedule with two successful targets and two workers — the first
    connection is returned, the second one is closed, everything finishes -/
def demoSched : List Label :=
  [.handoff 0, .prep 0, .feederGo, .handoff 1, .prep 1, .finish 0 true, .finish 1 true, .connRecv 0, .ret,
   .connClose 1, .workerExit 0, .workerExit 1, .closeErr]

example : (run [.ok, .ok] (init 2 2) demoSched).map (fun s => (terminal s, s.ret, s.closed, s.established, s.maxInflight)) =
    some (true, some (.conn 0), [1], [1, 0], 2) := by decide

/-- two failing targets, one worker: the errors are joined in arrival order -/
def demoErrs : List Label :=
  [.handoff 0, .prep 0, .finish 0 false, .errRecv 0, .handoff 0, .prep 0, .errRecv 0,
   .workerExit 0, .closeErr, .collectClosed, .ret]

example : (run [.fail, .refuse] (init 2 1) demoErrs).map (fun s => (terminal s, s.ret)) =
    some (true, some (.errs [0, 1])) := by decide

end DialLts
