import EchVerif.Lemmas.Conn
import EchVerif.Lemmas.Hello
/-
  C04 — illegal or malformed Encrypted Client Hellos are aborted with the mandated alert.
-/
open Wire TLS
namespace ECH

/-- Effects of every failing NewConn: the client receives exactly the fatal alert record of the
    returned error class (10/47/50/51/109, else 40) after whatever was written before, the transport
    is closed (end of stream), and nothing is buffered for a backend. -/
theorem C04_abort_effects (H : Hpke) (keys : List Key) (t : Tr) (e : Err) (r : NewResult)
    (hr : newConn H keys t = r) (he : r.err = some e) (hopen : t.closed = false) :
    r.tr.out = t.out ++ alertRecord e ∧ r.tr.closed = true ∧ r.st.readBuf = [] := by
  subst hr
  obtain ⟨_, t1, hrd, ⟨e', _, hr, hb⟩ | ⟨_, _, _, _, ⟨hr, _⟩ | ⟨_, _, _, hr, _⟩⟩⟩ :=
    newConn_cases H keys t <;> rw [hr] at he ⊢
  · -- abort: the alert is written to the transport as reading the first record left it
    cases he
    have ha := alertRaw_open e t1 (hrd.closed.trans hopen)
    exact ⟨ha.1.trans (by rw [hrd.out]), ha.2, hb⟩
  · cases he -- passthrough returns no error
  · cases he -- nor does accepted

/-- draft 5.1: ech_outer_extensions in ClientHelloOuter ⇒ illegal_parameter, before any decryption -/
theorem C04_rule_outerHasEOE (H : Hpke) (st : St) (record : Bytes) (r : Bool) (outer : Hello)
    (hp : parseClientHello (record.drop 5) = .ok outer) (hv : outer.d.hasEOE = true) :
    handle H st record r = .error .illegal := by
  unfold handle
  simp [hp, hv]

/-- draft 7: ECH type `inner` sent to a server that has keys ⇒ illegal_parameter -/
theorem C04_rule_typeInnerWithKeys (H : Hpke) (st : St) (record : Bytes) (r : Bool) (outer : Hello)
    (hp : parseClientHello (record.drop 5) = .ok outer) (hk : st.keys ≠ [])
    (hv : (outer.d.ech.map (·.typ)) = some 1) :
    handle H st record r = .error .illegal := by
  have : ¬ st.keys.isEmpty = true := by simpa using hk
  simp [handle, hp, this, hv]

/-- draft 7: an ECHClientHello.type other than outer(0)/inner(1) ⇒ illegal_parameter, at whatever
    position the extension sits and whatever follows the type byte -/
theorem C04_rule_unknownEchType (d : Derived) (e : Ext) (ty : Nat) (rest : Bytes)
    (ht : e.typ = 0xfe0d) (hr : readU8 e.data = some (ty, rest)) (hty : ty > 1) :
    extStep d e = .error .illegal := by
  unfold extStep
  simp only [ht]
  simp only [show (0xfe0d : Nat) ≠ 0 by decide, show (0xfe0d : Nat) ≠ 16 by decide,
    show (0xfe0d : Nat) ≠ 43 by decide, show (0xfe0d : Nat) ≠ 0xfd00 by decide, if_false, if_true]
  split
  · rfl
  · simp [parseEchExt, hr, hty]

/-- an error in any extension aborts the whole hello with that error: errors propagate through the
    extension fold, the ClientHello parser and handleClientHello unchanged -/
theorem C04_ext_error_propagates (d : Derived) (pre post : List Ext) (e : Ext) (x : Err) (d' : Derived)
    (hpre : parseExtensionsFrom d pre = .ok d') (he : extStep d' e = .error x) :
    parseExtensionsFrom d (pre ++ e :: post) = .error x := by
  induction pre generalizing d with
  | nil =>
    simp only [parseExtensionsFrom, Except.ok.injEq] at hpre
    subst hpre
    simp [parseExtensionsFrom, he]
  | cons p ps ih =>
    simp only [parseExtensionsFrom] at hpre
    split at hpre
    · simp at hpre
    · rename_i d1 h1
      simp only [List.cons_append, parseExtensionsFrom, h1]
      exact ih d1 hpre

/-- draft 7.1: the outer SNI must be the config's public name once the payload opens under it -/
theorem C04_rule_sniNotPublicName (H : Hpke) (st : St) (h : Hello) (ech : EchExt) (k : Key)
    (cfg : ConfigSpec) (c : Ctx) (aad pt : Bytes)
    (hcfg : configSpec k.config = some cfg)
    (hm : ¬ (cfg.id ≠ ech.configId ∨ ¬ cfg.suites.any (fun s => s.kdf = ech.kdf ∧ s.aead = ech.aead)))
    (hs : ¬ (st.ctx.isSome ∧ st.ctxConfig ≠ k.config))
    (hc : candCtx H st ech k cfg = .ok c) (ha : h.marshalAAD = .ok aad)
    (ho : H.open c aad ech.payload = some pt) (hn : cfg.publicName ≠ h.d.serverName) :
    tryKey H st h ech k = .fail .illegal := by
  unfold tryKey
  simp only [hcfg, hm, hs, if_false, hc, ha, ho, hn, ne_eq, not_false_eq_true, if_true]

/-- Everything an accepted inner hello satisfies (contrapositive: an authentic payload violating any
    of these is never accepted): its EncodedClientHelloInner parses, carries the inner-type ECH
    extension, its padding is all zero, the reconstructed hello offers TLS 1.3, and the
    outer-extension references expanded without error. -/
theorem C04_accepted_inner_obeys_rules (outer inner : Hello) (pt : Bytes)
    (h : decodeInner outer pt = .ok inner) :
    ∃ h0 body after,
      parseClientHello (u8 1 ++ (u24 pt.length ++ pt)) = .ok h0 ∧
      pt = body ++ after ∧ allZero after = true ∧
      (h0.d.ech.map (·.typ)) = some 1 ∧
      expandExts outer.exts h0.exts false = .ok inner.exts ∧
      parseExtensions inner.exts = .ok inner.d ∧ inner.d.tls13 = true := by
  obtain ⟨h0, newExt, d, hl, hp, hty, hx, hd, htls, rfl⟩ := decodeInner_ok h
  obtain ⟨after, hpt, _, _, hz⟩ := parseClientHello_framed hl hp
  exact ⟨h0, h0.body, after, hp, hpt, hz hty, hty, hx, hd, htls⟩

end ECH
