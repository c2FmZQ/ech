import EchVerif.Lemmas.Pipe
import EchVerif.ECH.Multi
/-
  C07 — Conn is an order-preserving, lossless byte pipe for every fragmentation and cut.
  The transport model hands the client's bytes out as an arbitrary list of chunks (`Tr.chunks`);
  `Tr.stream` is their concatenation. Every statement below holds for all chunkings and all buffer
  sizes because it only mentions `stream`.
-/
open Wire TLS
namespace ECH

/-- Read side, any sequence of Reads with arbitrary buffer sizes, any chunking: as long as no
    retried hello is processed (retry ≠ 1, or the read side already in passthrough — C06 covers the
    one record that is rewritten), the bytes handed to the backend, then the Conn's buffer, then
    what is still in the transport, are exactly the buffer and transport contents at the start:
    nothing lost, duplicated or reordered; nothing is written towards the client. -/
theorem C07_read_pipe (H : Hpke) (ns : List Nat) (st : St) (t : Tr)
    (hr : st.retry ≠ 1 ∨ st.readPT = true) :
    (readsRun H st t ns).1.flatten ++ (readsRun H st t ns).2.1.readBuf ++ (readsRun H st t ns).2.2.stream
      = st.readBuf ++ t.stream ∧ (readsRun H st t ns).2.2.out = t.out :=
  have h := readsRun_reads H ns t hr
  ⟨pending_reads h, h.out⟩

/-- Independence from fragmentation: two transports carrying the same byte stream in different
    chunkings, read with different buffer sizes, deliver prefixes of the same byte string. -/
theorem C07_chunking_independent (H : Hpke) (ns ms : List Nat) (st : St) (t t' : Tr)
    (hs : t.stream = t'.stream) (hr : st.retry ≠ 1 ∨ st.readPT = true) :
    (readsRun H st t ns).1.flatten ++ ((readsRun H st t ns).2.1.readBuf ++ (readsRun H st t ns).2.2.stream)
    = (readsRun H st t' ms).1.flatten ++ ((readsRun H st t' ms).2.1.readBuf ++ (readsRun H st t' ms).2.2.stream) := by
  have a := (readsRun_reads H ns t hr).stream
  have b := (readsRun_reads H ms t' hr).stream
  simp only [pending_stream] at a b
  rw [a, b, hs]

/-- Cut while a record is being read: the bytes received before the cut are handed out first; the
    transport's error (ErrUnexpectedEOF mapped to EOF) is reported only by the Read that drains
    them, and by every Read after it. -/
theorem C07_cut_inspecting (H : Hpke) (st : St) (t t1 : Tr) (n : Nat) (r : Bytes) (e : Err)
    (hc : ¬ st.readPT ∧ st.readBuf = [] ∧ st.readErr.isNone) (hrec : readRecord t = (r, some e, t1)) :
    (connRead H st t n).data = r.take n ∧ (connRead H st t n).st.readBuf = r.drop n ∧
    (connRead H st t n).st.readErr = some e ∧
    ((connRead H st t n).err = if r.drop n = [] then some e else none) := by
  unfold connRead
  simp only [hc, and_self, hrec]
  unfold deliver
  by_cases hr : r = []
  · subst hr; simp
  · simp [hr]

/-- Cut in passthrough mode: the transport's own error is returned, with no data, only once every
    chunk has been handed out. -/
theorem C07_cut_passthrough (H : Hpke) (st : St) (t : Tr) (n : Nat) (e : IOErr)
    (hpt : st.readPT = true) (hb : st.readBuf = []) (hre : st.readErr = none)
    (herr : (connRead H st t n).err = some (.io e)) :
    (connRead H st t n).data = [] ∧ (t.closed = false → t.chunks = [] ∧ e = t.fin) := by
  have h : connRead H st t n = ⟨(t.read1 n).1, (t.read1 n).2.1.map .io, st, (t.read1 n).2.2⟩ := by
    simp [connRead, deliver, hpt, hb, hre]
  rw [h] at herr ⊢
  obtain ⟨e', he', hio⟩ := Option.map_eq_some_iff.mp herr
  cases hio
  obtain ⟨hd, _, hfin⟩ := read1_err (Prod.ext rfl (Prod.ext he' rfl))
  exact ⟨hd, hfin⟩

/-- Write side, one call on an open transport that reports success: the client has received exactly
    the concatenation of everything written so far minus the withheld buffer, which is empty or a
    single incomplete TLS record; Write reports len(b); the read side is untouched. -/
theorem C07_write_pipe (st : St) (t : Tr) (b : Bytes) (hopen : t.closed = false)
    (hok : (connWrite st t b).err = none) :
    (connWrite st t b).tr.out ++ (connWrite st t b).st.writeBuf = t.out ++ st.writeBuf ++ b ∧
    (connWrite st t b).n = b.length ∧
    ((connWrite st t b).st.writeBuf = [] ∨ Incomplete (connWrite st t b).st.writeBuf) ∧
    (connWrite st t b).tr.chunks = t.chunks ∧ (connWrite st t b).st.readBuf = st.readBuf := by
  obtain ⟨a, b', _, d, e⟩ := connWrite_pipe hopen hok
  obtain ⟨_, _, _, hf, _⟩ := connWrite_frame st t b
  exact ⟨a, b', e, d, by rw [hf]⟩

/-- a list of successful writes -/
def writesRun : St → Tr → List Bytes → Option (St × Tr)
  | st, t, [] => some (st, t)
  | st, t, b :: bs =>
    if (connWrite st t b).err = none then writesRun (connWrite st t b).st (connWrite st t b).tr bs else none

/-- Write side, any split of the backend's output into Write calls: once all calls have succeeded the
    client has received the whole concatenation except at most one incomplete record. -/
theorem C07_write_pipe_run (bs : List Bytes) (st st' : St) (t t' : Tr) (hopen : t.closed = false)
    (h : writesRun st t bs = some (st', t')) :
    t'.out ++ st'.writeBuf = t.out ++ st.writeBuf ++ bs.flatten ∧ t'.closed = false := by
  induction bs generalizing st t with
  | nil => simp [writesRun] at h; obtain ⟨rfl, rfl⟩ := h; simp [hopen]
  | cons b bs ih =>
    simp only [writesRun] at h
    split at h
    · rename_i hok
      obtain ⟨a, _, c, _⟩ := connWrite_pipe hopen hok
      obtain ⟨i1, i2⟩ := ih _ _ c h
      refine ⟨?_, i2⟩
      rw [i1, a]; simp [List.append_assoc]
    · simp at h

/-- non-vacuity: the hypotheses are met by a freshly accepted connection (retry = 0) -/
example : ((0 : Nat) ≠ 1 ∨ false = true) := Or.inl (by decide)

@[simp] theorem Multi.set_same (m : Multi) (i : Nat) (s : Sys) : (m.set i s) i = s := if_pos rfl

theorem Multi.set_other (m : Multi) (i j : Nat) (s : Sys) (h : j ≠ i) : (m.set i s) j = m j := if_neg h

/-- Several connections in one process, their operations interleaved in any order (`ECH/Multi.lean`):
    seen from connection `i`, the run is the single-connection run of `i`'s own operations - same final
    state, same results of its Reads and Writes in the same order. Together with the pipe theorems above:
    each connection is a lossless pipe of its own bytes whatever the process does on the others. -/
theorem C07_connections_independent (H : Hpke) (xs : List (Nat × Op)) (m : Multi) (i : Nat) :
    (mrun H m xs).1 i = (runOps H (m i) (opsOf i xs)).1 ∧
    obsOf i (mrun H m xs).2 = (runOps H (m i) (opsOf i xs)).2 := by
  induction xs generalizing m with
  | nil => simp [mrun, opsOf, obsOf, runOps]
  | cons x xs ih =>
    obtain ⟨j, op⟩ := x
    have ih' := ih (mstep H m (j, op)).1
    by_cases hj : j = i
    · -- `i`'s own step: its state is updated, and the operation and its observation are `i`'s next
      subst hj
      have hs : (mstep H m (j, op)).1 j = (stepOp H (m j) op).1 := Multi.set_same ..
      have ho : opsOf j ((j, op) :: xs) = op :: opsOf j xs := by simp [opsOf]
      have hb : obsOf j ((mstep H m (j, op)).2 :: (mrun H (mstep H m (j, op)).1 xs).2)
          = (stepOp H (m j) op).2 :: obsOf j (mrun H (mstep H m (j, op)).1 xs).2 := by
        simp [obsOf, mstep]
      rw [hs] at ih'
      simp only [mrun, ho, runOps, hb]
      exact ⟨ih'.1, by rw [ih'.2]⟩
    · -- another connection's step: `i`'s state is left alone, its operations and observations gain nothing
      have hs : (mstep H m (j, op)).1 i = m i := Multi.set_other _ _ _ _ (Ne.symm hj)
      have ho : opsOf i ((j, op) :: xs) = opsOf i xs := by simp [opsOf, hj]
      have hb : obsOf i ((mstep H m (j, op)).2 :: (mrun H (mstep H m (j, op)).1 xs).2)
          = obsOf i (mrun H (mstep H m (j, op)).1 xs).2 := by
        simp [obsOf, mstep, hj]
      rw [hs] at ih'
      simp only [mrun, ho, hb]
      exact ih'

/-- What the other connections do - which operations, how many, in which order relative to `i`'s - is
    invisible on connection `i`. -/
theorem C07_other_connections_invisible (H : Hpke) (xs ys : List (Nat × Op)) (m m' : Multi) (i : Nat)
    (hm : m i = m' i) (ho : opsOf i xs = opsOf i ys) :
    obsOf i (mrun H m xs).2 = obsOf i (mrun H m' ys).2 ∧ (mrun H m xs).1 i = (mrun H m' ys).1 i := by
  have a := C07_connections_independent H xs m i
  have b := C07_connections_independent H ys m' i
  rw [hm, ho] at a
  exact ⟨a.2.trans b.2.symm, a.1.trans b.1.symm⟩

/-- non-vacuity: two interleavings that agree on connection 0 and differ on connection 1 -/
example : opsOf 0 [(0, Op.read 5), (1, Op.write [1, 2]), (0, Op.read 7)]
        = opsOf 0 [(1, Op.read 1), (0, Op.read 5), (0, Op.read 7), (1, Op.feed [[3]])] := by
  simp [opsOf]

end ECH
