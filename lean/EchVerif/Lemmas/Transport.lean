import EchVerif.ECH.Conn
/-! transport lemmas: reads move bytes from the front of the stream, never touch the output side -/
open Wire TLS
namespace ECH

/-- `t'` is `t` after `d` has been read from it, whatever the chunking: `d` is gone from the front of
    the client's stream and nothing else has changed. -/
structure Tr.Reads (t : Tr) (d : Bytes) (t' : Tr) : Prop where
  stream : d ++ t'.stream = t.stream
  fin : t'.fin = t.fin
  out : t'.out = t.out
  closed : t'.closed = t.closed

theorem Tr.Reads.refl (t : Tr) : t.Reads [] t := ⟨rfl, rfl, rfl, rfl⟩

theorem Tr.Reads.trans {t t' t'' : Tr} {d d' : Bytes} (h : t.Reads d t') (h' : t'.Reads d' t'') :
    t.Reads (d ++ d') t'' :=
  ⟨by rw [List.append_assoc, h'.stream, h.stream], h'.fin.trans h.fin, h'.out.trans h.out,
    h'.closed.trans h.closed⟩

variable {k fuel : Nat} {t t' : Tr} {d : Bytes} {e : Option IOErr}

-- the four branches of `read1`: closed; no chunk left; the first chunk fits the buffer; it is split

theorem read1_reads (h : t.read1 k = (d, e, t')) : t.Reads d t' := by
  revert h
  fun_cases Tr.read1 k t
  all_goals intro h
  all_goals cases h
  case case1 | case2 => exact .refl t
  case case3 hc _ => exact ⟨by simp [Tr.stream, hc], rfl, rfl, rfl⟩
  case case4 hc _ => exact ⟨by simp [Tr.stream, hc, ← List.append_assoc], rfl, rfl, rfl⟩

theorem read1_length (h : t.read1 k = (d, e, t')) : d.length ≤ k := by
  revert h
  fun_cases Tr.read1 k t
  all_goals intro h
  all_goals cases h
  case case1 | case2 => exact Nat.zero_le k
  case case3 hfit => exact hfit
  case case4 => rw [List.length_take]; exact Nat.min_le_left _ _

theorem read1_err {e : IOErr} (h : t.read1 k = (d, some e, t')) :
    d = [] ∧ t' = t ∧ (t.closed = false → t.chunks = [] ∧ e = t.fin) := by
  revert h
  fun_cases Tr.read1 k t
  all_goals intro h
  all_goals cases h
  case case1 hc => exact ⟨rfl, rfl, fun ho => by rw [hc] at ho; cases ho⟩
  case case2 hc => exact ⟨rfl, rfl, fun _ => ⟨hc, rfl⟩⟩

theorem read1_progress (h : t.read1 k = (d, e, t')) (hk : 0 < k) (hch : ∀ c ∈ t.chunks, c ≠ []) :
    d ≠ [] ∨ e ≠ none := by
  revert h
  fun_cases Tr.read1 k t
  all_goals intro h
  case case1 | case2 => cases h; exact .inr nofun
  case case3 hc _ => cases h; exact .inl (hch _ (by rw [hc]; exact List.mem_cons_self ..))
  case case4 c _ hc _ =>
    cases h
    have hne : c ≠ [] := hch _ (by rw [hc]; exact List.mem_cons_self ..)
    exact .inl fun h0 => hne (List.take_eq_nil_iff.mp h0 |>.resolve_left (Nat.ne_of_gt hk))

theorem readFull_reads (h : Tr.readFull fuel k t = (d, e, t')) : t.Reads d t' := by
  revert d e t'
  fun_induction Tr.readFull fuel k t
  all_goals intro d e t' h
  all_goals cases h
  case case1 | case2 => exact .refl _
  case case3 h1 => exact read1_reads h1
  case case4 h1 _ _ _ h2 ih => exact (read1_reads h1).trans (ih h2)

theorem readFull_length (h : Tr.readFull fuel k t = (d, e, t')) :
    d.length ≤ k ∧ (e = none → d.length = k) := by
  revert d e t'
  fun_induction Tr.readFull fuel k t
  all_goals intro d e t' h
  all_goals cases h
  case case1 => exact ⟨Nat.le_refl _, fun _ => rfl⟩
  case case2 => exact ⟨Nat.zero_le _, nofun⟩ -- out of fuel
  case case3 h1 => exact ⟨read1_length h1, nofun⟩ -- `read1` fails
  case case4 h1 _ _ _ h2 ih => -- the recursive call
    have hd := read1_length h1
    rw [List.length_append]
    exact ⟨Nat.add_le_of_le_sub' hd (ih h2).1, fun he => by rw [(ih h2).2 he, Nat.add_sub_cancel' hd]⟩

-- In the branches of `readRecord` the binders are, in order: the header bytes, (a transport error,) the
-- transport after them, the header's `readFull` equation `h1`; from the second branch on whether the
-- record is too long, `hmax`; in the last two the same for the body, ending in its equation `h2`.

theorem readRecord_reads {r : Bytes} {oe : Option Err} (h : readRecord t = (r, oe, t')) :
    t.Reads r t' := by
  revert h
  fun_cases readRecord t
  all_goals intro h
  -- the header alone (transport error, or record too long), or header and body
  case case1 _ _ _ h1 | case2 _ _ h1 _ => cases h; exact readFull_reads h1
  case case3 _ _ h1 _ _ _ _ h2 | case4 _ _ h1 _ _ _ h2 =>
    cases h; exact (readFull_reads h1).trans (readFull_reads h2)

theorem readRecord_result {r : Bytes} {oe : Option Err} (h : readRecord t = (r, oe, t')) :
    r.length ≤ 5 + maxRecordLength ∧
    (oe = none → 5 ≤ r.length ∧ r.length = 5 + recLen (r.take 5) ∧ recLen (r.take 5) ≤ maxRecordLength) ∧
    (∀ e, oe = some e → e = .decode ∨ ∃ x, e = .io x) := by
  revert h
  fun_cases readRecord t
  all_goals intro h
  case case1 _ _ _ h1 => -- header: transport error
    cases h
    exact ⟨Nat.le_add_right_of_le (readFull_length h1).1, nofun, fun _ he => .inr ⟨_, (Option.some.inj he).symm⟩⟩
  case case2 _ _ h1 _ => -- record too long
    cases h
    exact ⟨Nat.le_add_right_of_le (readFull_length h1).1, nofun, fun _ he => .inl (Option.some.inj he).symm⟩
  case case3 _ _ h1 hmax _ _ _ h2 => -- body: transport error
    cases h
    rw [List.length_append]
    exact ⟨Nat.add_le_add (readFull_length h1).1 (Nat.le_trans (readFull_length h2).1 (Nat.le_of_not_gt hmax)),
      nofun, fun _ he => .inr ⟨_, (Option.some.inj he).symm⟩⟩
  case case4 hd _ h1 hmax b _ h2 => -- a whole record: 5 header bytes `hd`, then `recLen hd` bytes `b`
    cases h
    have l1 := (readFull_length h1).2 rfl
    have l2 := (readFull_length h2).2 rfl
    rw [List.take_left' l1, List.length_append, l1, l2]
    exact ⟨Nat.add_le_add_left (Nat.le_of_not_gt hmax) 5,
      fun _ => ⟨Nat.le_add_right 5 _, rfl, Nat.le_of_not_gt hmax⟩, nofun⟩

@[simp] theorem write_open {b : Bytes} {t : Tr} (h : t.closed = false) :
    t.write b = (b.length, none, { t with out := t.out ++ b }) := by
  simp [Tr.write, h]

theorem write_closed {b : Bytes} {t : Tr} (h : t.closed = true) : t.write b = (0, some .closed, t) := by
  simp [Tr.write, h]

theorem alertRaw_open (e : Err) (t : Tr) (h : t.closed = false) :
    (alertRaw e t).out = t.out ++ alertRecord e ∧ (alertRaw e t).closed = true := by
  simp [alertRaw, Tr.close, h]

end ECH
