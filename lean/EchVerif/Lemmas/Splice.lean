import EchVerif.ECH.Conn
/-! Appendix B outer-extension substitution: the byte/fuel loop of the model refines a list-level
    loop (`refsLoop`), whose result is characterised declaratively: an order-preserving sublist of
    the outer extensions, which distinct outer types make the filter by the referenced types. -/
open Wire TLS
namespace ECH

def refsLoop : List Nat → List Ext → Except Err (List Ext)
  | [], _ => .ok []
  | t :: ts, rem =>
    if t = 0xfe0d ∨ t = 0xfd00 then .error .illegal else
    -- Go: `for p < len(outer) && outer[p].Type != t { p++ }` on the remaining suffix
    match rem.dropWhile (fun e => e.typ ≠ t) with
    | [] => .error .illegal
    | e :: rem' =>
      match refsLoop ts rem' with
      | .error x => .error x
      | .ok es => .ok (e :: es)

/-- the reference list carried by the marker: big-endian uint16s -/
def refTypes : Nat → Bytes → Option (List Nat)
  | 0, b => if b = [] then some [] else none
  | fuel+1, b =>
    if b = [] then some [] else
    match readU16 b with
    | some (t, r) => (refTypes fuel r).map (t :: ·)
    | none => none

theorem refsLoopF_refines {fuel : Nat} {want : Bytes} {outer res : List Ext}
    (h : refsLoopF fuel want outer = .ok res) :
    ∃ ts, refTypes fuel want = some ts ∧ refsLoop ts outer = .ok res := by
  fun_induction refsLoopF fuel want outer generalizing res
  all_goals first | cases h | skip
  case case1 | case3 => exact ⟨[], by simp [refTypes], rfl⟩
  case case8 hw t rest hr hne e outer' hd es hes ih => -- `t` found at `e`
    obtain ⟨ts, h1, h2⟩ := ih hes
    exact ⟨t :: ts, by simp [refTypes, hw, hr, h1], by simp only [refsLoop, if_neg hne, hd, h2]⟩

theorem refsLoop_ok {refs : List Nat} {outer res : List Ext} (h : refsLoop refs outer = .ok res) :
    res.Sublist outer ∧ res.map (·.typ) = refs ∧ ∀ t ∈ refs, t ≠ 0xfe0d ∧ t ≠ 0xfd00 := by
  fun_induction refsLoop refs outer generalizing res
  all_goals cases h
  case case1 => exact ⟨List.nil_sublist _, rfl, nofun⟩
  case case5 t ts rem hne e rem' hs es hes ih => -- `t` found at `e`
    have het := List.head?_dropWhile_not (fun e : Ext => decide (e.typ ≠ t)) rem
    rw [hs] at het
    have het : e.typ = t := by simpa using het
    obtain ⟨i1, i2, i3⟩ := ih hes
    exact ⟨(i1.cons_cons e).trans (hs ▸ List.dropWhile_sublist _), by simp [het, i2],
      List.forall_mem_cons.mpr ⟨by omega, i3⟩⟩

theorem sublist_eq_filter {α β} [DecidableEq β] (f : α → β) {l₁ l₂ : List α} (h : l₁.Sublist l₂)
    (hnd : (l₂.map f).Nodup) : l₁ = l₂.filter (fun a => (l₁.map f).contains (f a)) := by
  induction h with
  | slnil => rfl
  | @cons l₁ l₂ a h ih =>
    obtain ⟨ha, hnd⟩ := List.nodup_cons.mp hnd
    have : ¬ f a ∈ l₁.map f := fun hm => ha ((h.map f).subset hm)
    rw [List.filter_cons, if_neg (by simpa using this)]
    exact ih hnd
  | @cons_cons l₁ l₂ a h ih =>
    obtain ⟨ha, hnd⟩ := List.nodup_cons.mp hnd
    have : l₂.filter (fun x => ((a :: l₁).map f).contains (f x)) = l₂.filter (fun x => (l₁.map f).contains (f x)) :=
      List.filter_congr fun x hx => by
        have : f x ≠ f a := fun he => ha (he ▸ List.mem_map_of_mem hx)
        simp [this]
    rw [List.filter_cons, if_pos (by simp), this, ← ih hnd]

end ECH
