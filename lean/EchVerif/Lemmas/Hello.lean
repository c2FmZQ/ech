import EchVerif.TLS.Hello
/-! L-RT, the wire round trips of the ClientHello model: what the parsers accept is what the
    marshallers write. -/
open Wire

namespace TLS

/-- the plain (non-AAD) encoding of an extension list -/
def encExts : List Ext → Bytes
  | [] => []
  | e :: es => u16 e.typ ++ (u16 e.data.length ++ e.data) ++ encExts es

theorem encExts_append (a b : List Ext) : encExts (a ++ b) = encExts a ++ encExts b := by
  induction a with
  | nil => rfl
  | cons e es ih => simp [encExts, ih, List.append_assoc]

/-- the payload length `marshal(aad)` zeroes at the end of the ECH extension -/
def Hello.payloadLen (h : Hello) : Nat := (h.d.ech.map (·.payload.length)).getD 0

theorem Hello.payloadLen_of_ech {h : Hello} {y : EchExt} (he : h.d.ech = some y) :
    h.payloadLen = y.payload.length := by
  simp [Hello.payloadLen, he]

/-- the ClientHello body `marshalBody` writes around the extension block `eb` -/
def Hello.bodyWith (h : Hello) (eb : Bytes) : Bytes :=
  u16 h.legacyVersion ++ h.random ++ (u8 h.sessionId.length ++ h.sessionId) ++
    (u16 h.cipherSuites.length ++ h.cipherSuites) ++ (u8 h.compression.length ++ h.compression) ++
    (if h.noExt then [] else u16 eb.length ++ eb)

theorem Hello.bodyWith_of_ext {h : Hello} (hne : h.noExt = false) (eb : Bytes) :
    h.bodyWith eb = u16 h.legacyVersion ++ h.random ++ (u8 h.sessionId.length ++ h.sessionId) ++
      (u16 h.cipherSuites.length ++ h.cipherSuites) ++ (u8 h.compression.length ++ h.compression) ++
      (u16 eb.length ++ eb) := by
  simp [Hello.bodyWith, hne]

/-- the ClientHello body of `h` as `marshal` writes it -/
def Hello.body (h : Hello) : Bytes := h.bodyWith (encExts h.exts)

/-- the record `marshalRec` writes around a ClientHello body -/
def recordOf (ver : Nat) (body : Bytes) : Bytes :=
  u8 0x16 ++ u16 ver ++ (u16 (4 + body.length) ++ (u8 1 ++ (u24 body.length ++ body)))

theorem recordOf_length (ver : Nat) (body : Bytes) : (recordOf ver body).length = 9 + body.length := by
  simp [recordOf]; omega

/-- field sizes of a hello that came off the wire -/
structure Hello.InRange (h : Hello) : Prop where
  ver : h.legacyVersion < 65536
  rnd : h.random.length = 32
  sid : h.sessionId.length < 256
  cs : h.cipherSuites.length < 65536
  comp : h.compression.length < 256
  exts : ∀ e ∈ h.exts, e.typ < 65536 ∧ e.data.length < 65536
  block : (encExts h.exts).length < 65536

theorem parseExtsF_inv {fuel : Nat} {b : Bytes} {es : List Ext} (h : parseExtsF fuel b = some es) :
    encExts es = b ∧ ∀ e ∈ es, e.typ < 65536 ∧ e.data.length < 65536 := by
  fun_induction parseExtsF fuel b generalizing es
  all_goals first | cases h | skip
  case case1 | case3 => exact ⟨rfl, nofun⟩
  case case7 ht _ _ hd _ hes ih => -- one more extension
    obtain ⟨rfl, k1⟩ := readU16_inv ht
    obtain ⟨rfl, k2⟩ := readLP16_inv hd
    obtain ⟨rfl, k3⟩ := ih hes
    exact ⟨by simp [encExts], by simpa [k1, k2] using k3⟩

theorem parseExts_inv {b : Bytes} {es : List Ext} (h : parseExts b = some es) :
    encExts es = b ∧ ∀ e ∈ es, e.typ < 65536 ∧ e.data.length < 65536 := parseExtsF_inv h

theorem parseExtsF_encExts (es : List Ext) (hr : ∀ e ∈ es, e.typ < 65536 ∧ e.data.length < 65536) :
    ∀ fuel, (encExts es).length ≤ fuel → parseExtsF fuel (encExts es) = some es := by
  induction es with
  | nil => intro fuel _; cases fuel <;> rfl
  | cons e es ih =>
    obtain ⟨he, hes⟩ := List.forall_mem_cons.mp hr
    intro fuel hf
    have hne : encExts (e :: es) ≠ [] := by simp [encExts, u16]
    cases fuel with
    | zero => exact absurd (List.eq_nil_of_length_eq_zero (Nat.le_zero.mp hf)) hne
    | succ n =>
      have hl : (encExts es).length ≤ n := by
        simp only [encExts, List.length_append, u16_length] at hf; omega
      rw [parseExtsF, if_neg hne]
      simp only [encExts, List.append_assoc, readU16_u16 he.1, readLP16_append he.2, ih hes n hl]

theorem parseExts_encExts {es : List Ext} (hr : ∀ e ∈ es, e.typ < 65536 ∧ e.data.length < 65536) :
    parseExts (encExts es) = some es := parseExtsF_encExts es hr _ (Nat.le_refl _)

theorem putExt_false (pl : Nat) (e : Ext) : putExt false pl e =
    if e.data.length < 65536 then .ok (u16 e.typ ++ (u16 e.data.length ++ e.data)) else .error .other := by
  by_cases h : e.data.length < 65536 <;> simp [putExt, lp16, h]

theorem putExt_ok {aad : Bool} {pl : Nat} {x : Ext} {a : Bytes} (h : putExt aad pl x = .ok a) :
    ∃ d, d = (if aad = true ∧ x.typ = 0xfe0d then x.data.take (x.data.length - pl) ++ List.replicate pl 0
              else x.data) ∧
      d.length < 65536 ∧ a = u16 x.typ ++ (u16 d.length ++ d) := by
  revert h
  fun_cases putExt aad pl x
  all_goals intro h
  all_goals cases h
  · -- the ECH extension in AAD mode
    rename_i hc _ _ hlp
    obtain ⟨hl, rfl⟩ := lp16_ok hlp
    exact ⟨_, (if_pos hc).symm, hl, rfl⟩
  · -- any other extension, or not in AAD mode
    rename_i hc _ hlp
    obtain ⟨hl, rfl⟩ := lp16_ok hlp
    exact ⟨_, (if_neg hc).symm, hl, rfl⟩

theorem putExts_false {pl : Nat} {es : List Ext} {eb : Bytes} :
    putExts false pl es = .ok eb ↔ (∀ e ∈ es, e.data.length < 65536) ∧ eb = encExts es := by
  induction es generalizing eb with
  | nil => simp [putExts, encExts, eq_comm]
  | cons e es ih =>
    rw [putExts, putExt_false, List.forall_mem_cons]
    by_cases he : e.data.length < 65536
    · rw [if_pos he]
      cases hr : putExts false pl es with
      | error x =>
        have : ¬ ∀ e ∈ es, e.data.length < 65536 := fun h => by simp [ih.mpr ⟨h, rfl⟩] at hr
        simp [this]
      | ok b =>
        obtain ⟨hb, rfl⟩ := ih.mp hr
        simpa [he, encExts, eq_comm] using fun _ => hb
    · rw [if_neg he]
      simp [he]

theorem bind_ite_ok {ε α β} {r : Except ε α} {c : α → Prop} [DecidablePred c] {f : α → β} {e : ε} {b : β} :
    (r.bind fun a => if c a then .ok (f a) else .error e) = .ok b ↔ ∃ a, r = .ok a ∧ c a ∧ b = f a := by
  cases r with
  | error x => simp [Except.bind]
  | ok a => by_cases h : c a <;> simp [Except.bind, h, eq_comm]

theorem marshalBody_eq (aad : Bool) (h : Hello) :
    marshalBody aad h = (putExts aad h.payloadLen h.exts).bind fun eb =>
      if h.sessionId.length < 256 ∧ h.cipherSuites.length < 65536 ∧ h.compression.length < 256 ∧
          eb.length < 65536 then .ok (h.bodyWith eb) else .error .other := by
  unfold marshalBody
  -- the `let pl := …` of the definition is `h.payloadLen`
  extract_lets pl
  have hpl : pl = h.payloadLen := by cases hech : h.d.ech <;> simp [pl, Hello.payloadLen, hech]
  clear_value pl
  subst hpl
  cases putExts aad h.payloadLen h.exts with
  | error x => rfl
  | ok eb =>
    dsimp only [Except.bind]
    by_cases hc : h.sessionId.length < 256 ∧ h.cipherSuites.length < 65536 ∧ h.compression.length < 256 ∧
        eb.length < 65536
    · rw [if_pos hc, lp8_of hc.1, lp16_of hc.2.1, lp8_of hc.2.2.1, lp16_of hc.2.2.2]
      rfl
    · rw [if_neg hc]
      split
      · rename_i h1 h2 h3 h4
        exact absurd ⟨(lp8_ok h1).1, (lp16_ok h2).1, (lp8_ok h3).1, (lp16_ok h4).1⟩ hc
      · rfl

theorem marshalBody_ok {aad : Bool} {h : Hello} {body : Bytes} :
    marshalBody aad h = .ok body ↔
      ∃ eb, putExts aad h.payloadLen h.exts = .ok eb ∧
        (h.sessionId.length < 256 ∧ h.cipherSuites.length < 65536 ∧ h.compression.length < 256 ∧
          eb.length < 65536) ∧ body = h.bodyWith eb := by
  rw [marshalBody_eq, bind_ite_ok]

theorem marshalBody_false {h : Hello} (r : h.InRange) : marshalBody false h = .ok h.body :=
  marshalBody_ok.mpr
    ⟨_, putExts_false.mpr ⟨fun e he => (r.exts e he).2, rfl⟩, ⟨r.sid, r.cs, r.comp, r.block⟩, rfl⟩

theorem marshalRec_eq (aad : Bool) (h : Hello) :
    marshalRec aad h = (marshalBody aad h).bind fun body =>
      if 4 + body.length < 65536 then .ok (recordOf h.legacyVersion body) else .error .other := by
  have hlen : ∀ body : Bytes, (u8 1 ++ (u24 body.length ++ body)).length = 4 + body.length := by
    intro body; simp only [List.length_append, u8_length, u24_length]; omega
  unfold marshalRec
  cases marshalBody aad h with
  | error x => rfl
  | ok body =>
    dsimp only [Except.bind]
    by_cases hl : 4 + body.length < 65536
    · simp only [if_pos hl, lp24_of (show body.length < 16777216 by omega), lp16_of ((hlen body).symm ▸ hl), hlen,
        recordOf]
    · rw [if_neg hl]
      by_cases h24 : body.length < 16777216
      · simp only [lp24_of h24, lp16, hlen, hl, if_false]
      · simp only [lp24, h24, if_false]

theorem marshalRec_ok {aad : Bool} {h : Hello} {r : Bytes} :
    marshalRec aad h = .ok r ↔
      ∃ body, marshalBody aad h = .ok body ∧ 4 + body.length < 65536 ∧ r = recordOf h.legacyVersion body := by
  rw [marshalRec_eq, bind_ite_ok]

theorem marshalRec_length {aad : Bool} {h : Hello} {buf : Bytes} (hm : marshalRec aad h = .ok buf) :
    9 ≤ buf.length := by
  obtain ⟨body, _, _, rfl⟩ := marshalRec_ok.mp hm
  exact recordOf_length .. ▸ Nat.le_add_right 9 _

/-- a marshalled record has its 9 header bytes, so `marshalAAD` never takes the `m[9:]` panic branch -/
theorem marshalAAD_no_slice_panic (h : Hello) (m : Bytes) (hm : marshalRec true h = .ok m) :
    h.marshalAAD = .ok (m.drop 9) := by
  have := marshalRec_length hm
  unfold Hello.marshalAAD
  simp only [hm]
  rw [if_neg (by omega)]

theorem marshalAAD_ok {h : Hello} {a : Bytes} :
    h.marshalAAD = .ok a ↔ marshalBody true h = .ok a ∧ 4 + a.length < 65536 := by
  have hdrop : ∀ body, (recordOf h.legacyVersion body).drop 9 = body := fun _ => rfl
  constructor
  · intro ha
    revert ha
    fun_cases Hello.marshalAAD h
    all_goals intro ha
    all_goals cases ha
    rename_i m hm _
    obtain ⟨body, hb, hl, rfl⟩ := marshalRec_ok.mp hm
    rw [hdrop]
    exact ⟨hb, hl⟩
  · rintro ⟨hb, hl⟩
    rw [marshalAAD_no_slice_panic h _ (marshalRec_ok.mpr ⟨a, hb, hl, rfl⟩), hdrop]

theorem parseEchExt_inv {data : Bytes} {x : EchExt} (h : parseEchExt data = .ok x) :
    (x = { typ := 1 } ∧ data = u8 1) ∨
    (x.typ = 0 ∧ x.enc.length < 65536 ∧ x.payload.length < 65536 ∧
      data = u8 0 ++ (u16 x.kdf ++ (u16 x.aead ++ (u8 x.configId ++
        ((u16 x.enc.length ++ x.enc) ++ (u16 x.payload.length ++ x.payload)))))) := by
  revert h
  fun_cases parseEchExt data
  all_goals intro h
  all_goals cases h
  · -- type inner
    rename_i h0
    exact .inl ⟨rfl, by simpa using (readU8_inv h0).1⟩
  · -- `h0 : readU8 data = some (t, r0)` with `ht : ¬ t > 1`, `ht1 : ¬ t = 1`; then `h1` … `h5`, the reads
    -- of kdf, aead, config id, enc, payload: `h_i : read r_{i-1} = some (field, r_i)`, and `r5 = []`
    rename_i t r0 h0 ht ht1 kdf r1 h1 aead r2 h2 cid r3 h3 enc r4 h4 pl h5
    obtain ⟨rfl, _⟩ := readU8_inv h0
    obtain ⟨rfl, _⟩ := readU16_inv h1
    obtain ⟨rfl, _⟩ := readU16_inv h2
    obtain ⟨rfl, _⟩ := readU8_inv h3
    obtain ⟨rfl, l4⟩ := readLP16_inv h4
    obtain ⟨rfl, l5⟩ := readLP16_inv h5
    obtain rfl : t = 0 := by omega
    exact .inr ⟨rfl, l4, l5, by simp only [List.append_nil, List.append_assoc]⟩

theorem parseEchExt_payload {data : Bytes} {x : EchExt} (h : parseEchExt data = .ok x) :
    x.payload.length ≤ data.length := by
  rcases parseEchExt_inv h with ⟨rfl, _⟩ | ⟨_, _, _, hd⟩
  · exact Nat.zero_le _
  · rw [hd]; simp only [List.length_append, u8_length, u16_length]; omega

theorem extStep_ech {d d' : Derived} {x : Ext} (h : extStep d x = .ok d') :
    (x.typ ≠ 0xfe0d → d'.ech = d.ech) ∧
    (x.typ = 0xfe0d → d.ech = none ∧ ∃ y, parseEchExt x.data = .ok y ∧ d'.ech = some y) := by
  revert h
  fun_cases extStep d x
  all_goals intro h
  all_goals cases h
  -- the ECH branch; every other one knows a type that is not 0xfe0d
  case case13.refl hx hn y hy => exact ⟨fun h => absurd hx h, fun _ => ⟨by simpa using hn, y, hy, rfl⟩⟩
  all_goals exact ⟨fun _ => rfl, fun hx => by omega⟩

/-- an ECH extension in the list is the only one, and it is the one recorded in `d'.ech` -/
theorem parseExtensionsFrom_ech {d d' : Derived} {es : List Ext} (h : parseExtensionsFrom d es = .ok d') :
    (∀ x ∈ es, x.typ = 0xfe0d → d.ech = none ∧ ∃ y, parseEchExt x.data = .ok y ∧ d'.ech = some y) ∧
    ((∀ x ∈ es, x.typ ≠ 0xfe0d) → d'.ech = d.ech) := by
  induction es generalizing d with
  | nil => cases h; exact ⟨nofun, fun _ => rfl⟩
  | cons x xs ih =>
    rw [parseExtensionsFrom] at h
    split at h
    · cases h
    · rename_i d1 h1
      obtain ⟨a1, a2⟩ := extStep_ech h1
      obtain ⟨b1, b2⟩ := ih h
      refine ⟨fun z hz hzt => ?_, fun hno => ?_⟩
      · rcases List.mem_cons.mp hz with rfl | hz
        · obtain ⟨hd, y, hy, hd1⟩ := a2 hzt
          -- a second ECH extension further on would have found `d1.ech` already set
          have : ∀ w ∈ xs, w.typ ≠ 0xfe0d := fun w hw hwt => by simp [(b1 w hw hwt).1] at hd1
          exact ⟨hd, y, hy, by rw [b2 this, hd1]⟩
        · obtain ⟨hd1, hy⟩ := b1 z hz hzt
          refine ⟨?_, hy⟩
          by_cases hx : x.typ = 0xfe0d
          · obtain ⟨_, y, _, hy1⟩ := a2 hx
            simp [hd1] at hy1
          · rw [← a1 hx, hd1]
      · rw [b2 fun w hw => hno w (List.mem_cons_of_mem _ hw), a1 (hno x (List.mem_cons_self ..))]

/-- L-RT, parse → marshal: what was read is the body the parsed hello re-marshals to
    (`marshalBody_false`), plus the only bytes the parser ignores — `after`: bytes following the
    extensions inside the handshake message; `trail`: bytes following the message. -/
theorem parseClientHello_inv {buf : Bytes} {h : Hello} (hp : parseClientHello buf = .ok h) :
    ∃ after trail,
      buf = u8 1 ++ (u24 (h.body ++ after).length ++ (h.body ++ after)) ++ trail ∧
      (h.body ++ after).length < 16777216 ∧ h.InRange ∧ parseExtensions h.exts = .ok h.d ∧
      ((h.d.ech.map (·.typ)) = some 1 → allZero after = true ∧ allZero trail = true) ∧
      (h.noExt = true → h.exts = [] ∧ after = []) := by
  revert hp
  fun_cases parseClientHello buf
  all_goals intro hp
  all_goals cases hp
  -- Two branches return a hello. Names follow the reads of the definition:
  -- `h0 : readU8 buf = some (mt, s0)` with `hmt : ¬ mt ≠ 1`, `h1 : readLP24 s0 = some (ss, zeros)`, then inside
  -- the message `ss` the reads `h2` … `h6` of version, random, session id, cipher suites, compression methods
  -- (`h_i : read s_{i-1} = some (field, s_i)`), `h7 : readLP16 s5 = some (extb, s6)`,
  -- `h8 : parseExts extb = some exts`, `hd : parseExtensions exts = .ok d`, and `hz`, the zero-padding check.
  -- In both, `ss = body ++ after` is checked while `ss` is still a variable: normalising the appends
  -- after substitution is several times dearer.
  · -- no extensions field: `s5 = []`, refined last, so `hd` is listed before `h6`
    rename_i mt s0 h0 hmt ss zeros h1 ver s1 h2 rnd s2 h3 sid s3 h4 cs s4 h5 comp d hd h6
    obtain ⟨rfl, _⟩ := readU8_inv h0
    obtain ⟨rfl, l1⟩ := readLP24_inv h1
    obtain ⟨e2, l2⟩ := readU16_inv h2
    obtain ⟨e3, l3⟩ := readN_inv h3
    obtain ⟨e4, l4⟩ := readLP8_inv h4
    obtain ⟨e5, l5⟩ := readLP16_inv h5
    obtain ⟨e6, l6⟩ := readLP8_inv h6
    obtain rfl : mt = 1 := Decidable.not_not.mp hmt
    cases hd
    obtain rfl : ss = Hello.body ⟨ver, rnd, sid, cs, comp, [], {}, true⟩ ++ [] := by
      rw [e2, e3, e4, e5, e6]
      simp only [Hello.body, Hello.bodyWith, if_true, List.append_assoc, List.append_nil]
    exact ⟨[], zeros, (List.append_assoc ..).symm, l1, ⟨l2, l3, l4, l5, l6, nofun, Nat.zero_lt_succ _⟩, rfl,
      nofun, fun _ => ⟨rfl, rfl⟩⟩
  · rename_i mt s0 h0 hmt ss zeros h1 ver s1 h2 rnd s2 h3 sid s3 h4 cs s4 h5 comp s5 h6 hs5 extb s6 h7 exts h8 d
      hd hz
    obtain ⟨rfl, _⟩ := readU8_inv h0
    obtain ⟨rfl, l1⟩ := readLP24_inv h1
    obtain ⟨e2, l2⟩ := readU16_inv h2
    obtain ⟨e3, l3⟩ := readN_inv h3
    obtain ⟨e4, l4⟩ := readLP8_inv h4
    obtain ⟨e5, l5⟩ := readLP16_inv h5
    obtain ⟨e6, l6⟩ := readLP8_inv h6
    obtain ⟨e7, l7⟩ := readLP16_inv h7
    obtain ⟨rfl, r8⟩ := parseExts_inv h8
    obtain rfl : mt = 1 := Decidable.not_not.mp hmt
    obtain rfl : ss = Hello.body ⟨ver, rnd, sid, cs, comp, exts, d, false⟩ ++ s6 := by
      rw [e2, e3, e4, e5, e6, e7]
      simp only [Hello.body, Hello.bodyWith, List.append_assoc, Bool.false_eq_true, if_false]
    exact ⟨s6, zeros, (List.append_assoc ..).symm, l1, ⟨l2, l3, l4, l5, l6, r8, l7⟩, hd,
      fun ht => Decidable.not_not.mp fun hbc => hz ⟨ht, hbc⟩, nofun⟩

theorem noExt_of_ech {buf : Bytes} {h : Hello} (hp : parseClientHello buf = .ok h) (he : h.d.ech.isSome) :
    h.noExt = false := by
  obtain ⟨_, _, _, _, _, hpe, _, hno⟩ := parseClientHello_inv hp
  cases hn : h.noExt with
  | false => rfl
  | true =>
    rw [(hno hn).1] at hpe
    obtain hd : ({} : Derived) = h.d := by simpa [parseExtensions, parseExtensionsFrom] using hpe
    simp [← hd] at he

theorem parseClientHello_framed {pt : Bytes} {h : Hello} (hl : pt.length < 16777216)
    (hp : parseClientHello (u8 1 ++ (u24 pt.length ++ pt)) = .ok h) :
    ∃ after, pt = h.body ++ after ∧ h.InRange ∧ parseExtensions h.exts = .ok h.d ∧
      ((h.d.ech.map (·.typ)) = some 1 → allZero after = true) := by
  obtain ⟨after, trail, hbuf, hl2, hr, hpe, hz, _⟩ := parseClientHello_inv hp
  rw [List.append_assoc, List.append_assoc] at hbuf
  obtain ⟨hu, hpt⟩ := List.append_inj (List.append_cancel_left hbuf) (by simp)
  have hn := congrArg List.length hpt
  rw [List.length_append, ← u24_inj hl hl2 hu] at hn
  obtain rfl : trail = [] := List.eq_nil_of_length_eq_zero (by omega)
  exact ⟨after, by simpa using hpt, hr, hpe, fun ht => (hz ht).1⟩

end TLS
