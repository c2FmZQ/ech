import EchVerif.Dial.Lts
/-
  Invariants of the Dial transition system, for every script, every number of workers and every
  schedule: `InvA` (indices, order, pacing, outcome), `InvB` (counting: in-flight attempts,
  connections, errors) and the progress measure.
-/
namespace DialLts

def Worker.idx : Worker → Option Nat
  | .got k => some k | .dial k _ => some k | .sendErr k => some k | .sendConn k => some k
  | .idle => none | .exited => none

/-- index of the next target the feeder will hand out (`n` when it is done) -/
def fidx (n : Nat) : Feeder → Nat
  | .wait k => k | .send k => k | .done => n

theorem run_inv {P : St → Prop} (script : List Script)
    (hstep : ∀ s s' l, P s → step script s l = some s' → P s')
    (s s' : St) (ls : List Label) (h : P s) (hr : run script s ls = some s') : P s' := by
  induction ls generalizing s with
  | nil => cases hr; exact h
  | cons l ls ih =>
    rw [run] at hr
    split at hr
    · cases hr
    · exact ih _ (hstep s _ l h ‹_›) hr

/-- if every step from a state satisfying `P` keeps `P` and lowers `m`, a schedule is no longer than the drop of `m` -/
theorem run_measure {P : St → Prop} {m : St → Nat} (script : List Script)
    (hstep : ∀ s s' l, P s → step script s l = some s' → P s' ∧ m s' < m s)
    (s s' : St) (ls : List Label) (h : P s) (hr : run script s ls = some s') :
    ls.length + m s' ≤ m s := by
  induction ls generalizing s with
  | nil => cases hr; exact Nat.le_of_eq (Nat.zero_add _)
  | cons l ls ih =>
    rw [run] at hr
    split at hr
    · cases hr
    · rename_i s1 h1
      have ⟨hp, hlt⟩ := hstep s s1 l h h1
      have hle := ih s1 hp hr
      rw [List.length_cons]
      omega

theorem set_perm {α} {l : List α} {w : Nat} {old : α} (h : l[w]? = some old) (x : α) :
    (old :: l.set w x).Perm (x :: l) := by
  induction l generalizing w with
  | nil => cases h
  | cons a t ih =>
    cases w with
    | zero => cases h; exact .swap ..
    | succ w => exact (List.Perm.swap ..).trans (((ih h).cons a).trans (.swap ..))

theorem ite_eq_toNat (b : Bool) : (if b then 1 else 0) = b.toNat := by cases b <;> rfl

theorem countP_set {α} {l : List α} {w : Nat} {old : α} (h : l[w]? = some old) (x : α) (p : α → Bool) :
    (l.set w x).countP p + (p old).toNat = l.countP p + (p x).toNat := by
  simpa only [List.countP_cons, ite_eq_toNat] using (set_perm h x).countP_eq p

theorem countP_set_same {α} {l : List α} {w : Nat} {old : α} (h : l[w]? = some old) (x : α) (p : α → Bool)
    (hp : p old = p x) : (l.set w x).countP p = l.countP p :=
  Nat.add_right_cancel (hp ▸ countP_set h x p)

theorem count_cons_toNat (k j : Nat) (l : List Nat) : (k :: l).count j = l.count j + (k == j).toNat := by
  rw [List.count_cons, ite_eq_toNat]

theorem count_concat_toNat (k j : Nat) (l : List Nat) : (l ++ [k]).count j = l.count j + (k == j).toNat := by
  rw [List.count_append, List.count_singleton, ite_eq_toNat]

theorem forall_getElem?_set {α} {Q : α → Prop} {l : List α} {w : Nat} {x : α}
    (hl : ∀ (v : Nat) (y : α), l[v]? = some y → Q y) (hx : Q x)
    (v : Nat) (y : α) (h : (l.set w x)[v]? = some y) : Q y := by
  rcases List.mem_or_eq_of_mem_set (List.mem_of_getElem? h) with hm | rfl
  · obtain ⟨i, hi⟩ := List.getElem?_of_mem hm
    exact hl i y hi
  · exact hx

theorem all_exited {ws : List Worker} (h : ws.all (· == .exited) = true) (v : Nat) (y : Worker)
    (hy : ws[v]? = some y) : y = .exited := by
  simpa using List.all_eq_true.mp h y (List.mem_of_getElem? hy)

theorem countP_all_exited {ws : List Worker} (p : Worker → Bool) (hp : p .exited = false)
    (h : ∀ (v : Nat) (y : Worker), ws[v]? = some y → y = Worker.exited) : ws.countP p = 0 := by
  rw [List.countP_eq_zero]
  intro y hy
  obtain ⟨v, hv⟩ := List.getElem?_of_mem hy
  rw [h v y hv, hp]; simp

-- `dsimp only [step]` below, not `simp only [step]`: `simp` derives the equation lemmas of `step` anew in
-- every declaration that uses it, which costs more than the rest of these proofs together.

variable {script : List Script} {nW : Nat} {s s' : St} {w : Nat}

theorem step_parentCancel (h : step script s .parentCancel = some s') :
    s.parentDone = false ∧ s' = { s with parentDone := true, ctxDone := true } := by
  dsimp only [step] at h
  split at h
  · cases h
  · cases h; exact ⟨Bool.eq_false_iff.mpr ‹_›, rfl⟩

theorem step_feederGo (h : step script s .feederGo = some s') :
    ∃ k, s.feeder = .wait k ∧ s' = { s with feeder := .send k, credit := true } := by
  dsimp only [step] at h
  split at h
  · cases h; exact ⟨_, by assumption, rfl⟩
  · cases h

theorem step_handoff (h : step script s (.handoff w) = some s') :
    ∃ k, s.feeder = .send k ∧ s.workers[w]? = some .idle ∧
      s' = { s with workers := s.workers.set w (.got k),
                    feeder := if k + 1 < script.length then .wait (k + 1) else .done,
                    handoffs := s.handoffs ++ [k], badPace := s.badPace || !s.credit, credit := false } := by
  dsimp only [step] at h
  split at h
  · cases h; exact ⟨_, by assumption, by assumption, rfl⟩
  · cases h

theorem step_prep (h : step script s (.prep w) = some s') :
    ∃ k, s.workers[w]? = some (.got k) ∧ k < script.length ∧
      (s' = { s with workers := s.workers.set w (.sendErr k) } ∨
       s' = { s with workers := s.workers.set w (.dial k s.ctxDone), inflight := s.inflight + 1,
                     maxInflight := max s.maxInflight (s.inflight + 1),
                     badLate := s.badLate || (s.returned && !s.ctxDone) }) := by
  dsimp only [step] at h
  split at h
  · rename_i k hk
    have hlt : ∀ {x : Script}, script[k]? = some x → k < script.length := fun hx =>
      (List.getElem?_eq_some_iff.mp hx).elim fun hlt _ => hlt
    split at h
    · cases h; exact ⟨k, hk, hlt ‹_›, .inl rfl⟩
    · cases h; exact ⟨k, hk, hlt ‹_›, .inl rfl⟩
    · cases h; exact ⟨k, hk, hlt ‹_›, .inr rfl⟩
    · cases h
  · cases h

theorem step_finish {ok : Bool} (h : step script s (.finish w ok) = some s') :
    ∃ k late, s.workers[w]? = some (.dial k late) ∧
      ((ok = true ∧ script[k]? = some .ok ∧
        s' = { s with workers := s.workers.set w (.sendConn k), established := k :: s.established, inflight := s.inflight - 1 }) ∨
       (ok = false ∧ s' = { s with workers := s.workers.set w (.sendErr k), inflight := s.inflight - 1 })) := by
  dsimp only [step] at h
  split at h
  · rename_i k late hk
    split at h <;> rename_i hok
    · split at h
      · cases h; exact ⟨k, late, hk, .inl ⟨‹_›, ‹_›, rfl⟩⟩
      · cases h
    · cases h; exact ⟨k, late, hk, .inr ⟨Bool.eq_false_iff.mpr hok, rfl⟩⟩
  · cases h

theorem step_errRecv (h : step script s (.errRecv w) = some s') :
    ∃ k, s.workers[w]? = some (.sendErr k) ∧ s.ret = none ∧
      s' = { s with workers := s.workers.set w .idle, errs := s.errs ++ [k],
                    feeder := match s.feeder with | .wait j => .send j | f => f,
                    credit := match s.feeder with | .wait _ => true | _ => s.credit } := by
  dsimp only [step] at h
  split at h
  · cases h; exact ⟨_, by assumption, by assumption, rfl⟩
  · cases h

theorem step_errDrop (h : step script s (.errDrop w) = some s') :
    ∃ k, s.workers[w]? = some (.sendErr k) ∧ s.ctxDone = true ∧
      s' = { s with workers := s.workers.set w .idle } := by
  dsimp only [step] at h
  split at h
  · split at h
    · cases h; exact ⟨_, by assumption, by assumption, rfl⟩
    · cases h
  · cases h

theorem step_connRecv (h : step script s (.connRecv w) = some s') :
    ∃ k, s.workers[w]? = some (.sendConn k) ∧ s.ret = none ∧
      s' = { s with workers := s.workers.set w .idle, ret := some (.conn k) } := by
  dsimp only [step] at h
  split at h
  · cases h; exact ⟨_, by assumption, by assumption, rfl⟩
  · cases h

theorem step_connClose (h : step script s (.connClose w) = some s') :
    ∃ k, s.workers[w]? = some (.sendConn k) ∧ s.ctxDone = true ∧
      s' = { s with workers := s.workers.set w .idle, closed := k :: s.closed } := by
  dsimp only [step] at h
  split at h
  · split at h
    · cases h; exact ⟨_, by assumption, by assumption, rfl⟩
    · cases h
  · cases h

theorem step_workerExit (h : step script s (.workerExit w) = some s') :
    s.workers[w]? = some .idle ∧ s.feeder = .done ∧ s' = { s with workers := s.workers.set w .exited } := by
  dsimp only [step] at h
  split at h
  · cases h; exact ⟨by assumption, by assumption, rfl⟩
  · cases h

theorem step_closeErr (h : step script s .closeErr = some s') :
    s.errClosed = false ∧ s.workers.all (· == .exited) = true ∧ s' = { s with errClosed := true } := by
  dsimp only [step] at h
  split at h
  · rename_i hc
    cases h
    simp only [Bool.and_eq_true, Bool.not_eq_true'] at hc
    exact ⟨hc.1, hc.2, rfl⟩
  · cases h

theorem step_collectClosed (h : step script s .collectClosed = some s') :
    s.ret = none ∧ s.errClosed = true ∧ s' = { s with ret := some (.errs s.errs) } := by
  dsimp only [step] at h
  split at h
  · split at h
    · cases h; exact ⟨by assumption, by assumption, rfl⟩
    · cases h
  · cases h

theorem step_collectCtx (h : step script s .collectCtx = some s') :
    s.ret = none ∧ s.ctxDone = true ∧ s' = { s with ret := some .ctxErr } := by
  dsimp only [step] at h
  split at h
  · split at h
    · cases h; exact ⟨by assumption, by assumption, rfl⟩
    · cases h
  · cases h

theorem step_ret (h : step script s .ret = some s') :
    s.ret.isSome = true ∧ s.returned = false ∧ s' = { s with returned := true, ctxDone := true } := by
  dsimp only [step] at h
  split at h
  · rename_i hc
    cases h
    simp only [Bool.and_eq_true, Bool.not_eq_true'] at hc
    exact ⟨hc.1, hc.2, rfl⟩
  · cases h

/-- The control state at every reachable state: targets are handed out in order and paced, a worker's
    target is one already handed out, no worker exits before the feeder is done, the error channel is
    closed only after all have exited, and Dial returns only with an outcome and cancels its context. -/
structure InvA (script : List Script) (nW : Nat) (s : St) : Prop where
  len : s.workers.length = nW
  fb : ∀ k, s.feeder = .send k ∨ s.feeder = .wait k → k < script.length
  order : s.handoffs = List.range (fidx script.length s.feeder)
  credit : ∀ k, s.feeder = .send k → s.credit = true
  pace : s.badPace = false
  retd : s.returned = true → s.ctxDone = true ∧ s.ret.isSome = true
  late : s.badLate = false
  exited : ∀ (w : Nat), s.workers[w]? = some Worker.exited → s.feeder = .done
  eclosed : s.errClosed = true → ∀ (w : Nat) (x : Worker), s.workers[w]? = some x → x = Worker.exited
  widx : ∀ (w : Nat) (x : Worker) (k : Nat), s.workers[w]? = some x → x.idx = some k → k < fidx script.length s.feeder
  ctx : s.ctxDone = true → s.parentDone = true ∨ s.returned = true

theorem invA_init (script : List Script) (nW : Nat) : InvA script nW (init script.length nW) := by
  have hw : ∀ (w : Nat) (x : Worker), (init script.length nW).workers[w]? = some x → x = .idle :=
    fun w x h => List.eq_of_mem_replicate (List.mem_of_getElem? h)
  refine ⟨List.length_replicate, ?_, ?_, fun _ _ => rfl, rfl, nofun, rfl, fun w h => (nomatch hw w _ h), nofun,
    fun w x k h hk => (by cases hw w x h; cases hk), nofun⟩
  · cases script <;> simp [init]
  · cases script <;> simp [init, fidx]

theorem InvA.returned_false (ha : InvA script nW s) (hr : s.ret = none) : s.returned = false := by
  cases hret : s.returned with
  | false => rfl
  | true => have := (ha.retd hret).2; rw [hr] at this; cases this

theorem InvA.frame (h : InvA script nW s) (es cl est : List Nat) (i mi : Nat) :
    InvA script nW { s with errs := es, closed := cl, established := est, inflight := i, maxInflight := mi } :=
  ⟨h.len, h.fb, h.order, h.credit, h.pace, h.retd, h.late, h.exited, h.eclosed, h.widx, h.ctx⟩

theorem InvA.setWorker (h : InvA script nW s) {w : Nat} {x : Worker} (hw : s.workers[w]? = some x)
    (hx : x ≠ .exited) (y : Worker) (hy : y = .exited → s.feeder = .done) (hidx : y.idx = none ∨ y.idx = x.idx) :
    InvA script nW { s with workers := s.workers.set w y } :=
  { h with
    len := by simpa using h.len
    exited := fun v hv => forall_getElem?_set (Q := fun z => z = .exited → s.feeder = .done)
      (fun v z hz (he : z = Worker.exited) => h.exited v (he ▸ hz)) hy v _ hv rfl
    eclosed := fun he => absurd (h.eclosed he w x hw) hx
    widx := fun v z k hz => forall_getElem?_set (Q := fun z => z.idx = some k → k < fidx script.length s.feeder)
      (fun v z hz => h.widx v z k hz) (fun hk => by
        rcases hidx with hi | hi
        · rw [hi] at hk; cases hk
        · exact h.widx w x k hw (hi ▸ hk)) v z hz }

/-- `wake()`, and the feeder's own timer -/
theorem InvA.wake (h : InvA script nW s) :
    InvA script nW { s with feeder := match s.feeder with | .wait j => .send j | f => f,
                            credit := match s.feeder with | .wait _ => true | _ => s.credit } := by
  cases hf : s.feeder with
  | wait k =>
    exact { h with
      fb := fun j hj => by rcases hj with hj | hj <;> cases hj; exact h.fb k (.inr hf)
      order := by have := h.order; rw [hf] at this; exact this
      credit := fun _ _ => rfl
      exited := fun v hv => by have := h.exited v hv; rw [hf] at this; cases this
      widx := by have := h.widx; rw [hf] at this; exact this }
  | send k => dsimp only; rw [← hf]; exact h
  | done => dsimp only; rw [← hf]; exact h

theorem invA_step (script : List Script) (nW : Nat) (s s' : St) (l : Label)
    (h : InvA script nW s) (hs : step script s l = some s') : InvA script nW s' := by
  cases l with
  | parentCancel =>
    obtain ⟨_, rfl⟩ := step_parentCancel hs
    exact { h with retd := fun hr => ⟨rfl, (h.retd hr).2⟩, ctx := fun _ => .inl rfl }
  | feederGo =>
    obtain ⟨k, hf, rfl⟩ := step_feederGo hs
    simpa only [hf] using h.wake
  | handoff w =>
    obtain ⟨k, hf, hw, rfl⟩ := step_handoff hs
    have hk := h.fb k (.inl hf)
    have hb : fidx script.length (if k + 1 < script.length then Feeder.wait (k + 1) else .done) = k + 1 := by
      split
      · rfl
      · exact Nat.le_antisymm (Nat.not_lt.mp ‹_›) hk
    have ho := h.order
    have hi := h.widx
    simp only [hf, fidx] at ho hi
    refine { h with len := by simpa using h.len, fb := ?_, order := ?_, credit := ?_, pace := ?_, exited := ?_,
                    eclosed := fun he => (nomatch h.eclosed he w _ hw), widx := ?_ }
    · intro j hj
      split at hj
      · rcases hj with hj | hj <;> cases hj; assumption
      · rcases hj with hj | hj <;> cases hj
    · simp only [hb, ho, List.range_succ]
    · intro j hj; split at hj <;> cases hj
    · simp [h.pace, h.credit k hf]
    · -- no worker has exited while the feeder still sends
      have live : ∀ (v : Nat) (z : Worker), s.workers[v]? = some z → z ≠ .exited := by
        intro v z hz he
        have := h.exited v (he ▸ hz)
        rw [hf] at this
        cases this
      intro v hv
      exact absurd rfl (forall_getElem?_set (x := .got k) live nofun v _ hv)
    · rw [hb]
      exact fun v z j hz => forall_getElem?_set (Q := fun z => z.idx = some j → j < k + 1)
        (fun v z hz hj => Nat.lt_succ_of_lt (hi v z j hz hj)) (fun hj => by cases hj; exact Nat.lt_succ_self _) v z hz
  | prep w =>
    obtain ⟨k, hw, _, rfl | rfl⟩ := step_prep hs
    · exact h.setWorker hw nofun (.sendErr k) nofun (.inr rfl)
    · have h' := (h.setWorker hw nofun (.dial k s.ctxDone) nofun (.inr rfl)).frame s.errs s.closed s.established (s.inflight + 1)
        (max s.maxInflight (s.inflight + 1))
      refine { h' with late := ?_ }
      simp only [h.late, Bool.false_or, Bool.and_eq_false_iff, Bool.not_eq_false']
      cases hr : s.returned with
      | false => exact .inl rfl
      | true => exact .inr (h.retd hr).1
  | finish w ok =>
    obtain ⟨k, late, hw, ⟨_, _, rfl⟩ | ⟨_, rfl⟩⟩ := step_finish hs
    · exact (h.setWorker hw nofun (.sendConn k) nofun (.inr rfl)).frame ..
    · exact (h.setWorker hw nofun (.sendErr k) nofun (.inr rfl)).frame ..
  | errRecv w =>
    obtain ⟨k, hw, _, rfl⟩ := step_errRecv hs
    exact (h.setWorker hw nofun .idle nofun (.inl rfl)).wake.frame ..
  | errDrop w =>
    obtain ⟨k, hw, _, rfl⟩ := step_errDrop hs
    exact h.setWorker hw nofun .idle nofun (.inl rfl)
  | connRecv w =>
    obtain ⟨k, hw, _, rfl⟩ := step_connRecv hs
    exact { h.setWorker hw nofun .idle nofun (.inl rfl) with retd := fun hr => ⟨(h.retd hr).1, rfl⟩ }
  | connClose w =>
    obtain ⟨k, hw, _, rfl⟩ := step_connClose hs
    exact (h.setWorker hw nofun .idle nofun (.inl rfl)).frame ..
  | workerExit w =>
    obtain ⟨hw, hf, rfl⟩ := step_workerExit hs
    exact h.setWorker hw nofun .exited (fun _ => hf) (.inl rfl)
  | closeErr =>
    obtain ⟨_, hall, rfl⟩ := step_closeErr hs
    exact { h with eclosed := fun _ => all_exited hall }
  | collectClosed =>
    obtain ⟨_, _, rfl⟩ := step_collectClosed hs
    exact { h with retd := fun hr => ⟨(h.retd hr).1, rfl⟩ }
  | collectCtx =>
    obtain ⟨_, _, rfl⟩ := step_collectCtx hs
    exact { h with retd := fun hr => ⟨(h.retd hr).1, rfl⟩ }
  | ret =>
    obtain ⟨hr, _, rfl⟩ := step_ret hs
    exact { h with retd := fun _ => ⟨rfl, hr⟩, ctx := fun _ => .inr rfl }

def isDial : Worker → Bool
  | .dial _ _ => true
  | _ => false

/-- the worker holds the established connection to target `j` -/
def holdsConn (j : Nat) : Worker → Bool
  | .sendConn k => k == j
  | _ => false

/-- the worker is responsible for target `j` (received, not yet reported) -/
def holds (j : Nat) : Worker → Bool
  | .got k | .dial k _ | .sendErr k | .sendConn k => k == j
  | _ => false

/-- Counting, given `InvA`: attempts in flight; where every established connection is (held, closed or
    returned); where every handed-out target is (held, or its error collected). -/
structure InvB (script : List Script) (nW : Nat) (s : St) : Prop where
  infl : s.inflight = s.workers.countP isDial
  maxi : s.maxInflight ≤ nW
  conns : ∀ j, s.workers.countP (holdsConn j) + s.closed.count j + (if s.ret = some (.conn j) then 1 else 0)
            = s.established.count j
  errsAcc : s.ret = none → s.ctxDone = false → ∀ j, s.errs.count j + s.workers.countP (holds j) = s.handoffs.count j
  errsAll : ∀ ks, s.ret = some (.errs ks) → s.parentDone = false → ∀ j, ks.count j = (List.range script.length).count j

theorem invB_init (script : List Script) (nW : Nat) : InvB script nW (init script.length nW) := by
  have hc : ∀ (p : Worker → Bool), p .idle = false → (List.replicate nW Worker.idle).countP p = 0 :=
    fun p hp => by rw [List.countP_replicate, hp]; rfl
  exact ⟨(hc isDial rfl).symm, Nat.zero_le _, fun j => by simp [init, hc (holdsConn j) rfl],
    fun _ _ j => by simp [init, hc (holds j) rfl], nofun⟩

theorem invB_step (script : List Script) (nW : Nat) (hn : 0 < nW) (s s' : St) (l : Label)
    (ha : InvA script nW s) (h : InvB script nW s) (hs : step script s l = some s') : InvB script nW s' := by
  cases l with
  | parentCancel =>
    obtain ⟨_, rfl⟩ := step_parentCancel hs
    exact { h with errsAcc := fun _ => nofun, errsAll := fun _ _ => nofun }
  | feederGo =>
    obtain ⟨_, _, rfl⟩ := step_feederGo hs
    exact ⟨h.infl, h.maxi, h.conns, h.errsAcc, h.errsAll⟩
  | handoff w =>
    obtain ⟨k, _, hw, rfl⟩ := step_handoff hs
    have same := countP_set_same hw (.got k)
    refine { h with infl := same isDial rfl ▸ h.infl, conns := fun j => same (holdsConn j) rfl ▸ h.conns j,
                    errsAcc := fun hr hc j => ?_ }
    have c : (s.workers.set w (.got k)).countP (holds j) = s.workers.countP (holds j) + (k == j).toNat :=
      countP_set hw (.got k) (holds j)
    dsimp only
    rw [c, count_concat_toNat, ← h.errsAcc hr hc j, Nat.add_assoc]
  | prep w =>
    obtain ⟨k, hw, _, rfl | rfl⟩ := step_prep hs
    · have same := countP_set_same hw (.sendErr k)
      exact { h with infl := same isDial rfl ▸ h.infl, conns := fun j => same (holdsConn j) rfl ▸ h.conns j,
                     errsAcc := fun hr hc j => same (holds j) rfl ▸ h.errsAcc hr hc j }
    · have same := countP_set_same hw (.dial k s.ctxDone)
      have c : (s.workers.set w (.dial k s.ctxDone)).countP isDial = s.workers.countP isDial + 1 :=
        countP_set hw (.dial k s.ctxDone) isDial
      have le := List.countP_le_length (p := isDial) (l := s.workers.set w (.dial k s.ctxDone))
      rw [List.length_set, ha.len, c, ← h.infl] at le
      exact { h with infl := (congrArg (· + 1) h.infl).trans c.symm, maxi := Nat.max_le.mpr ⟨h.maxi, le⟩,
                     conns := fun j => same (holdsConn j) rfl ▸ h.conns j,
                     errsAcc := fun hr hc j => same (holds j) rfl ▸ h.errsAcc hr hc j }
  | finish w ok =>
    obtain ⟨k, late, hw, ⟨_, _, rfl⟩ | ⟨_, rfl⟩⟩ := step_finish hs
    · have same := countP_set_same hw (.sendConn k)
      have c : (s.workers.set w (.sendConn k)).countP isDial + 1 = s.workers.countP isDial :=
        countP_set hw (.sendConn k) isDial
      refine { h with infl := (congrArg (· - 1) (h.infl.trans c.symm)), conns := fun j => ?_,
                      errsAcc := fun hr hc j => same (holds j) rfl ▸ h.errsAcc hr hc j }
      have c : (s.workers.set w (.sendConn k)).countP (holdsConn j)
          = s.workers.countP (holdsConn j) + (k == j).toNat := countP_set hw (.sendConn k) (holdsConn j)
      dsimp only
      rw [c, count_cons_toNat, ← h.conns j]
      ac_rfl
    · have same := countP_set_same hw (.sendErr k)
      have c : (s.workers.set w (.sendErr k)).countP isDial + 1 = s.workers.countP isDial :=
        countP_set hw (.sendErr k) isDial
      exact { h with infl := (congrArg (· - 1) (h.infl.trans c.symm)),
                     conns := fun j => same (holdsConn j) rfl ▸ h.conns j,
                     errsAcc := fun hr hc j => same (holds j) rfl ▸ h.errsAcc hr hc j }
  | errRecv w =>
    obtain ⟨k, hw, hr, rfl⟩ := step_errRecv hs
    have same := countP_set_same hw .idle
    refine { h with infl := same isDial rfl ▸ h.infl, conns := fun j => same (holdsConn j) rfl ▸ h.conns j,
                    errsAcc := fun _ hc j => ?_ }
    have c : (s.workers.set w .idle).countP (holds j) + (k == j).toNat = s.workers.countP (holds j) :=
      countP_set hw .idle (holds j)
    dsimp only
    rw [count_concat_toNat, ← h.errsAcc hr hc j, ← c]
    ac_rfl
  | errDrop w =>
    obtain ⟨k, hw, hc, rfl⟩ := step_errDrop hs
    have same := countP_set_same hw .idle
    exact { h with infl := same isDial rfl ▸ h.infl, conns := fun j => same (holdsConn j) rfl ▸ h.conns j,
                   errsAcc := fun _ hc' => nomatch hc.symm.trans hc' }
  | connRecv w =>
    obtain ⟨k, hw, hr, rfl⟩ := step_connRecv hs
    have same := countP_set_same hw .idle
    refine { h with infl := same isDial rfl ▸ h.infl, conns := fun j => ?_, errsAcc := nofun, errsAll := nofun }
    have c := countP_set hw .idle (holdsConn j)
    have b := h.conns j
    have e : (if some (Ret.conn k) = some (Ret.conn j) then 1 else 0) = (k == j).toNat := by
      simp [← ite_eq_toNat]
    simp only [holdsConn, hr, reduceCtorEq, ↓reduceIte, Bool.toNat_false] at c b ⊢
    omega
  | connClose w =>
    obtain ⟨k, hw, hc, rfl⟩ := step_connClose hs
    have same := countP_set_same hw .idle
    refine { h with infl := same isDial rfl ▸ h.infl, conns := fun j => ?_,
                    errsAcc := fun _ hc' => nomatch hc.symm.trans hc' }
    have c : (s.workers.set w .idle).countP (holdsConn j) + (k == j).toNat = s.workers.countP (holdsConn j) :=
      countP_set hw .idle (holdsConn j)
    dsimp only
    rw [count_cons_toNat, ← h.conns j, ← c]
    ac_rfl
  | workerExit w =>
    obtain ⟨hw, _, rfl⟩ := step_workerExit hs
    have same := countP_set_same hw .exited
    exact { h with infl := same isDial rfl ▸ h.infl, conns := fun j => same (holdsConn j) rfl ▸ h.conns j,
                   errsAcc := fun hr hc j => same (holds j) rfl ▸ h.errsAcc hr hc j }
  | closeErr =>
    obtain ⟨_, _, rfl⟩ := step_closeErr hs
    exact ⟨h.infl, h.maxi, h.conns, h.errsAcc, h.errsAll⟩
  | collectClosed =>
    obtain ⟨hr, he, rfl⟩ := step_collectClosed hs
    refine { h with conns := fun j => by simpa [hr] using h.conns j, errsAcc := nofun, errsAll := ?_ }
    -- the errors are joined only when every worker has exited: then every target has been handed
    -- out (`InvA.exited`, `order`) and none is still held, so `errsAcc` counts exactly the targets
    intro ks hks hp j
    cases hks
    have hc : s.ctxDone = false := by
      cases hc : s.ctxDone with
      | false => rfl
      | true => rcases ha.ctx hc with h | h
                · rw [hp] at h; cases h
                · rw [ha.returned_false hr] at h; cases h
    have hall := ha.eclosed he
    have hlen : 0 < s.workers.length := ha.len ▸ hn
    have h0 : s.workers[0]? = some s.workers[0] := List.getElem?_eq_getElem hlen
    have hfd : s.feeder = .done := ha.exited 0 (by rw [h0, hall 0 _ h0])
    have := h.errsAcc hr hc j
    rwa [countP_all_exited (holds j) rfl hall, ha.order, hfd] at this
  | collectCtx =>
    obtain ⟨hr, _, rfl⟩ := step_collectCtx hs
    exact { h with conns := fun j => by simpa [hr] using h.conns j, errsAcc := nofun, errsAll := nofun }
  | ret =>
    obtain ⟨_, _, rfl⟩ := step_ret hs
    exact { h with errsAcc := fun _ => nofun }

def wWeight : Worker → Nat
  | .exited => 0 | .idle => 1 | .sendErr _ => 2 | .sendConn _ => 2 | .dial _ _ => 3 | .got _ => 4

def fWeight (n : Nat) : Feeder → Nat
  | .send k => 10 * (n - k)
  | .wait k => 10 * (n - k) + 1
  | .done => 0

def retWeight (returned : Bool) (ret : Option Ret) : Nat := if returned then 0 else if ret.isSome then 1 else 2

/-- 1 while the flag is still to be raised -/
def pending (b : Bool) : Nat := if b then 0 else 1

def wSum (ws : List Worker) : Nat := (ws.map wWeight).sum

/-- strictly decreases with every step (see `measure_step`) -/
def measure (n : Nat) (s : St) : Nat :=
  fWeight n s.feeder + pending s.errClosed + retWeight s.returned s.ret + pending s.parentDone + wSum s.workers

theorem wSum_set {ws : List Worker} {w : Nat} {old : Worker} (h : ws[w]? = some old) (x : Worker) :
    wSum (ws.set w x) + wWeight old = wSum ws + wWeight x := by
  simpa only [wSum, List.map_cons, List.sum_cons, Nat.add_comm] using ((set_perm h x).map wWeight).sum_nat

theorem wSum_set_lt {ws : List Worker} {w : Nat} {old : Worker} (h : ws[w]? = some old) (x : Worker)
    (hlt : wWeight x < wWeight old) : wSum (ws.set w x) < wSum ws := by
  have := wSum_set h x
  omega

theorem wSum_replicate (n : Nat) : wSum (List.replicate n Worker.idle) = n := by
  rw [wSum, List.map_replicate, List.sum_replicate_nat]; exact Nat.mul_one n

/-- 9 pays for the worker's way from `got` back to `idle` (4 - 1) with room to spare -/
theorem fWeight_handoff {n k : Nat} (hk : k < n) :
    fWeight n (if k + 1 < n then .wait (k + 1) else .done) + 9 ≤ fWeight n (.send k) := by
  have hs : n - k = n - (k + 1) + 1 := (Nat.succ_pred_eq_of_pos (Nat.sub_pos_of_lt hk)).symm
  split
  · exact Nat.le_of_eq (by rw [fWeight, fWeight, hs, Nat.mul_succ])
  · exact Nat.le_trans (by decide : 0 + 9 ≤ 10 * 1) (Nat.mul_le_mul_left 10 (Nat.sub_pos_of_lt hk))

theorem measure_step (script : List Script) (nW : Nat) (s s' : St) (l : Label)
    (ha : InvA script nW s) (hs : step script s l = some s') :
    measure script.length s' < measure script.length s := by
  cases l with
  | parentCancel =>
    obtain ⟨hp, rfl⟩ := step_parentCancel hs
    simp [measure, hp, pending]
  | feederGo =>
    obtain ⟨k, hf, rfl⟩ := step_feederGo hs
    simp [measure, hf, fWeight]
  | handoff w =>
    obtain ⟨k, hf, hw, rfl⟩ := step_handoff hs
    have := fWeight_handoff (ha.fb k (.inl hf))
    have : wSum (s.workers.set w (.got k)) + 1 = wSum s.workers + 4 := wSum_set hw (.got k)
    simp only [measure, hf]
    omega
  | prep w =>
    obtain ⟨k, hw, _, rfl | rfl⟩ := step_prep hs
    · exact Nat.add_lt_add_left (wSum_set_lt hw (.sendErr k) (by decide : 2 < 4)) _
    · exact Nat.add_lt_add_left (wSum_set_lt hw (.dial k s.ctxDone) (by decide : 3 < 4)) _
  | finish w ok =>
    obtain ⟨k, late, hw, ⟨_, _, rfl⟩ | ⟨_, rfl⟩⟩ := step_finish hs
    · exact Nat.add_lt_add_left (wSum_set_lt hw (.sendConn k) (by decide : 2 < 3)) _
    · exact Nat.add_lt_add_left (wSum_set_lt hw (.sendErr k) (by decide : 2 < 3)) _
  | errRecv w =>
    obtain ⟨k, hw, hr, rfl⟩ := step_errRecv hs
    have := wSum_set_lt hw .idle (by decide : 1 < 2)
    have hf : fWeight script.length (match s.feeder with | .wait j => .send j | f => f) ≤ fWeight script.length s.feeder := by
      cases s.feeder <;> simp [fWeight]
    simp only [measure]; omega
  | errDrop w =>
    obtain ⟨k, hw, _, rfl⟩ := step_errDrop hs
    exact Nat.add_lt_add_left (wSum_set_lt hw .idle (by decide : 1 < 2)) _
  | connRecv w =>
    obtain ⟨k, hw, hr, rfl⟩ := step_connRecv hs
    have := wSum_set_lt hw .idle (by decide : 1 < 2)
    simp only [measure, retWeight, hr, ha.returned_false hr]
    simp; omega
  | connClose w =>
    obtain ⟨k, hw, _, rfl⟩ := step_connClose hs
    exact Nat.add_lt_add_left (wSum_set_lt hw .idle (by decide : 1 < 2)) _
  | workerExit w =>
    obtain ⟨hw, _, rfl⟩ := step_workerExit hs
    exact Nat.add_lt_add_left (wSum_set_lt hw .exited (by decide : 0 < 1)) _
  | closeErr =>
    obtain ⟨he, _, rfl⟩ := step_closeErr hs
    simp [measure, he, pending]
  | collectClosed =>
    obtain ⟨hr, _, rfl⟩ := step_collectClosed hs
    simp [measure, retWeight, hr, ha.returned_false hr]
  | collectCtx =>
    obtain ⟨hr, _, rfl⟩ := step_collectCtx hs
    simp [measure, retWeight, hr, ha.returned_false hr]
  | ret =>
    obtain ⟨hr, hn, rfl⟩ := step_ret hs
    simp [measure, retWeight, hr, hn]

/-- a step other than the caller cancelling -/
def isSystem : Label → Bool
  | .parentCancel => false
  | _ => true

theorem progress (script : List Script) (nW : Nat) (hn : 0 < nW) (s : St)
    (ha : InvA script nW s) (ht : terminal s = false) :
    ∃ l, isSystem l = true ∧ (step script s l).isSome = true := by
  -- once an outcome is chosen Dial can return; when it has, the context is cancelled
  by_cases hready : s.ret.isSome = true ∧ s.returned = false
  · -- the step is enabled: unfold, rewrite the guard, compute; so for every label offered below
    exact ⟨.ret, rfl, by dsimp only [step]; rw [hready.1, hready.2]; rfl⟩
  have hctx : ∀ r, s.ret = some r → s.returned = true ∧ s.ctxDone = true := fun r hr => by
    cases hret : s.returned with
    | true => exact ⟨rfl, (ha.retd hret).1⟩
    | false => exact absurd ⟨by rw [hr]; rfl, hret⟩ hready
  by_cases hbusy : ∃ (w : Nat) (x : Worker), s.workers[w]? = some x ∧ x ≠ .idle ∧ x ≠ .exited
  · obtain ⟨w, x, hw, hni, hne⟩ := hbusy
    cases x with
    | idle => exact absurd rfl hni
    | exited => exact absurd rfl hne
    | got k =>
      have hk : k < script.length := by
        have := ha.widx w _ k hw rfl
        cases hf : s.feeder with
        | wait i => rw [hf] at this; exact Nat.lt_trans this (ha.fb i (.inr hf))
        | send i => rw [hf] at this; exact Nat.lt_trans this (ha.fb i (.inl hf))
        | done => rw [hf] at this; exact this
      refine ⟨.prep w, rfl, ?_⟩
      dsimp only [step]
      simp only [hw, List.getElem?_eq_getElem hk]
      cases script[k] <;> rfl
    | dial k late => exact ⟨.finish w false, rfl, by dsimp only [step]; rw [hw]; rfl⟩
    | sendErr k =>
      cases hr : s.ret with
      | none => exact ⟨.errRecv w, rfl, by dsimp only [step]; rw [hw, hr]; rfl⟩
      | some r => exact ⟨.errDrop w, rfl, by dsimp only [step]; rw [hw, (hctx r hr).2]; rfl⟩
    | sendConn k =>
      cases hr : s.ret with
      | none => exact ⟨.connRecv w, rfl, by dsimp only [step]; rw [hw, hr]; rfl⟩
      | some r => exact ⟨.connClose w, rfl, by dsimp only [step]; rw [hw, (hctx r hr).2]; rfl⟩
  · have hidle : ∀ (w : Nat) (x : Worker), s.workers[w]? = some x → x = .idle ∨ x = .exited := by
      intro w x hw
      by_cases h1 : x = .idle
      · exact .inl h1
      · by_cases h2 : x = .exited
        · exact .inr h2
        · exact absurd ⟨w, x, hw, h1, h2⟩ hbusy
    cases hf : s.feeder with
    | wait k => exact ⟨.feederGo, rfl, by dsimp only [step]; rw [hf]; rfl⟩
    | send k =>
      have hlen : 0 < s.workers.length := ha.len ▸ hn
      have h0 : s.workers[0]? = some s.workers[0] := List.getElem?_eq_getElem hlen
      rcases hidle 0 _ h0 with h | h <;> rw [h] at h0
      · exact ⟨.handoff 0, rfl, by dsimp only [step]; rw [hf, h0]; rfl⟩
      · have := ha.exited 0 h0; rw [hf] at this; cases this
    | done =>
      by_cases hex : ∃ (w : Nat), s.workers[w]? = some Worker.idle
      · obtain ⟨w, hw⟩ := hex
        exact ⟨.workerExit w, rfl, by dsimp only [step]; rw [hw, hf]; rfl⟩
      · have hall : s.workers.all (· == .exited) = true := by
          rw [List.all_eq_true]
          intro y hy
          obtain ⟨v, hv⟩ := List.getElem?_of_mem hy
          rcases hidle v y hv with h | h <;> subst h
          · exact absurd ⟨v, hv⟩ hex
          · rfl
        cases he : s.errClosed with
        | false => exact ⟨.closeErr, rfl, by dsimp only [step]; rw [he, hall]; rfl⟩
        | true =>
          cases hr : s.ret with
          | none => exact ⟨.collectClosed, rfl, by dsimp only [step]; rw [hr, he]; rfl⟩
          | some r =>
            have : terminal s = true := by simp [terminal, (hctx r hr).1, he, hf, hall]
            rw [ht] at this; cases this

/-- `s` is reachable by some schedule -/
def Reach (script : List Script) (nW : Nat) (s : St) : Prop :=
  ∃ ls, run script (init script.length nW) ls = some s

theorem reach_inv {script : List Script} {nW : Nat} (hn : 0 < nW) {s : St} (h : Reach script nW s) :
    InvA script nW s ∧ InvB script nW s := by
  obtain ⟨ls, hr⟩ := h
  refine run_inv (P := fun s => InvA script nW s ∧ InvB script nW s) script ?_ _ s ls
    ⟨invA_init script nW, invB_init script nW⟩ hr
  intro s s' l ⟨ha, hb⟩ hs
  exact ⟨invA_step script nW s s' l ha hs, invB_step script nW hn s s' l ha hb hs⟩

end DialLts
