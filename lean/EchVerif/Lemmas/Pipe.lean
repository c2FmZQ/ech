import EchVerif.Lemmas.Inv
/-! pipe lemmas: bytes move from (readBuf ++ client stream) to the caller, and from the caller's
    writes to (client output ++ writeBuf), in order, nothing lost or duplicated -/
open Wire TLS
namespace ECH

/-- What the backend has still to receive, as one transport: the read buffer as first chunk, then the
    client's chunks. A Read `Tr.Reads` from it, so runs of Reads compose by `Tr.Reads.trans`. -/
def pending (st : St) (t : Tr) : Tr := { t with chunks := st.readBuf :: t.chunks }

@[simp] theorem pending_stream (st : St) (t : Tr) : (pending st t).stream = st.readBuf ++ t.stream := by
  simp [pending, Tr.stream]

theorem pending_reads {st st' : St} {t t' : Tr} {d : Bytes} (h : (pending st t).Reads d (pending st' t')) :
    d ++ st'.readBuf ++ t'.stream = st.readBuf ++ t.stream := by
  rw [List.append_assoc, ← pending_stream, ← pending_stream]
  exact h.stream

theorem deliver_pipe (n : Nat) (st : St) (t : Tr) :
    (pending st t).Reads (deliver n st t).data (pending (deliver n st t).st (deliver n st t).tr) ∧
    (deliver n st t).data.length ≤ n := by
  fun_cases deliver n st t
  case case1 => -- from the buffer
    exact ⟨⟨by simp [← List.append_assoc], rfl, rfl, rfl⟩, List.length_take ▸ Nat.min_le_left _ _⟩
  case case2 => exact ⟨.refl _, Nat.zero_le _⟩ -- the stored error
  case case3 hb _ _ _ _ hr => -- from the transport, the buffer being empty (`hb`); `hr`: `read1`'s equation
    have h := read1_reads hr
    have hb : st.readBuf = [] := Decidable.not_not.mp hb
    exact ⟨⟨by simpa [hb] using h.stream, h.fin, h.out, h.closed⟩, read1_length hr⟩

theorem deliver_progress {n : Nat} {st : St} {t : Tr} (hn : 0 < n)
    (h : st.readBuf ≠ [] ∨ st.readErr ≠ none ∨ ∀ c ∈ t.chunks, c ≠ []) :
    (deliver n st t).data ≠ [] ∨ (deliver n st t).err ≠ none := by
  fun_cases deliver n st t
  case case1 hb => exact .inl fun h0 => hb (List.take_eq_nil_iff.mp h0 |>.resolve_left (Nat.ne_of_gt hn))
  case case2 => exact .inr nofun
  case case3 hb he _ e _ hr => -- buffer empty `hb`, no stored error `he`, `read1` returns `e`, by `hr`
    have hch := (h.resolve_left hb).resolve_left (fun h => h he)
    exact (read1_progress hr hn hch).imp id fun h hm => h (Option.map_eq_none_iff.mp hm)

theorem connRead_pipe (H : Hpke) {st : St} (t : Tr) (n : Nat) (hr : st.retry ≠ 1 ∨ st.readPT = true) :
    (pending st t).Reads (connRead H st t n).data (pending (connRead H st t n).st (connRead H st t n).tr) ∧
    (connRead H st t n).data.length ≤ n ∧ (connRead H st t n).st.retry = st.retry ∧
    (st.readPT = true → (connRead H st t n).st.readPT = true) := by
  rcases connRead_cases H st t n with h | ⟨hpt, hb, _, r, oe, t1, hrr, ⟨_, hr1, _⟩ | ⟨pt, h⟩⟩
  · rw [h] -- no record is read
    exact ⟨(deliver_pipe n st t).1, (deliver_pipe n st t).2, by rw [deliver_st], fun h => by rw [deliver_st]; exact h⟩
  · -- a retried hello needs `retry = 1` and a read side that still inspects
    rcases hr with hr | hr
    · exact absurd hr1 hr
    · rw [hpt] at hr; cases hr
  · rw [h] -- a record
    have hrd := readRecord_reads hrr
    -- filling the empty buffer with the record moves bytes within `pending`, consuming none
    have hfill : (pending st t).Reads [] (pending { st with readBuf := r, readErr := oe, readPT := pt } t1) :=
      ⟨by simpa [hb] using hrd.stream, hrd.fin, hrd.out, hrd.closed⟩
    exact ⟨hfill.trans (deliver_pipe n _ t1).1, (deliver_pipe n _ t1).2, by rw [deliver_st],
      fun h => by rw [hpt] at h; cases h⟩

/-- a list of reads with arbitrary buffer sizes -/
def readsRun (H : Hpke) : St → Tr → List Nat → List Bytes × St × Tr
  | st, t, [] => ([], st, t)
  | st, t, n :: ns =>
    let r := connRead H st t n
    let rest := readsRun H r.st r.tr ns
    (r.data :: rest.1, rest.2.1, rest.2.2)

theorem readsRun_reads (H : Hpke) (ns : List Nat) {st : St} (t : Tr) (hr : st.retry ≠ 1 ∨ st.readPT = true) :
    (pending st t).Reads (readsRun H st t ns).1.flatten
      (pending (readsRun H st t ns).2.1 (readsRun H st t ns).2.2) := by
  induction ns generalizing st t with
  | nil => exact .refl _
  | cons n ns ih =>
    obtain ⟨h1, _, h3, h4⟩ := connRead_pipe H t n hr
    exact h1.trans (ih _ (hr.imp (fun h => h3 ▸ h) h4))

/-- at most one incomplete TLS record -/
def Incomplete (b : Bytes) : Prop := b.length < 5 ∨ b.length < recLen b + 5

theorem writeLoop_pipe {fuel blen : Nat} {st : St} {t : Tr} (hopen : t.closed = false)
    (hok : (writeLoop fuel blen st t).err = none) :
    (writeLoop fuel blen st t).tr.out ++ (writeLoop fuel blen st t).st.writeBuf = t.out ++ st.writeBuf ∧
    (writeLoop fuel blen st t).n = blen ∧ (writeLoop fuel blen st t).tr.closed = false ∧
    (writeLoop fuel blen st t).tr.chunks = t.chunks ∧
    (st.writeBuf.length < fuel → Incomplete (writeLoop fuel blen st t).st.writeBuf) := by
  revert hopen hok
  fun_induction writeLoop fuel blen st t
  all_goals intro hopen hok
  -- the loop stops: out of fuel, fewer than 5 bytes, or less than the record the header announces
  case case1 => exact ⟨rfl, rfl, hopen, rfl, nofun⟩
  case case2 hl => exact ⟨rfl, rfl, hopen, rfl, fun _ => .inl hl⟩
  case case4 hsz => exact ⟨rfl, rfl, hopen, rfl, fun _ => .inr hsz⟩
  -- it fails: record too long, `inspectWrite`, or (excluded by `hopen`) the transport
  case case3 | case5 => cases hok
  case case6 hw =>
    rw [write_open hopen] at hw
    cases hw
  -- one record of `recLen + 5` bytes goes from the buffer to the transport. Binders: fuel, the caller's
  -- length, state, transport; ≥ 5 bytes buffered `hl`, not too long, the whole record buffered `hsz`;
  -- `inspectWrite`'s state `st1` and equation `hi`; bytes written, transport after, `write`'s equation `hw`
  case case7 k blen st t hl _ hsz st1 hi _ _ hw ih =>
    have hwb : st1.writeBuf = st.writeBuf := by
      rcases inspectWrite_ok hi with e | e | ⟨e, _⟩ <;> rw [e]
    rw [write_open hopen] at hw
    cases hw
    have hlen : (st1.writeBuf.take (recLen st.writeBuf + 5)).length = recLen st.writeBuf + 5 := by
      rw [hwb, List.length_take, Nat.min_eq_left (Nat.le_of_not_gt hsz)]
    obtain ⟨p1, p2, p3, p4, p5⟩ := ih hopen hok
    refine ⟨?_, p2, p3, p4, fun hf => p5 ?_⟩
    · rw [p1]
      simp only [List.append_assoc]
      rw [hlen, List.take_append_drop, hwb]
    · show (st1.writeBuf.drop (st1.writeBuf.take (recLen st.writeBuf + 5)).length).length < k
      rw [hlen, List.length_drop, hwb]
      have hpos : 0 < st.writeBuf.length := Nat.lt_of_lt_of_le (by decide : 0 < 5) (Nat.le_of_not_gt hl)
      exact Nat.lt_of_lt_of_le (Nat.sub_lt hpos (Nat.succ_pos _)) (Nat.le_of_lt_succ hf)

theorem connWrite_pipe {st : St} {t : Tr} {b : Bytes} (hopen : t.closed = false)
    (hok : (connWrite st t b).err = none) :
    (connWrite st t b).tr.out ++ (connWrite st t b).st.writeBuf = t.out ++ st.writeBuf ++ b ∧
    (connWrite st t b).n = b.length ∧ (connWrite st t b).tr.closed = false ∧
    (connWrite st t b).tr.chunks = t.chunks ∧
    ((connWrite st t b).st.writeBuf = [] ∨ Incomplete (connWrite st t b).st.writeBuf) := by
  unfold connWrite at hok ⊢
  split
  · rename_i hc
    simp [hc.2, hopen]
  · rename_i hc
    simp only [hc, if_false] at hok
    obtain ⟨p1, p2, p3, p4, p5⟩ := writeLoop_pipe hopen hok
    exact ⟨by rw [p1]; simp [List.append_assoc], p2, p3, p4, Or.inr (p5 (by simp))⟩

end ECH
