import EchVerif.Lemmas.Splice
import EchVerif.Lemmas.Hello
import EchVerif.Spec.Hello
/-
  The model refines the byte-level specification `Spec/Hello.lean`, which was written from the
  RFC / draft text independently of client_hello.go:
  * the fields and the extension list of a parsed hello are what `Spec.fields` / `Spec.extsOf` read
    off the wire (the part shared by the two refinements below);
  * the outer-extension substitution is `Spec.expand` (ClientHelloInner, C03);
  * the associated data `marshalAAD` computes is `Spec.aadSpec` (ClientHelloOuterAAD, C02).
-/
open Wire TLS
namespace ECH

def toRaw (e : Ext) : Spec.RawExt := ⟨e.typ, e.data⟩

theorem rawExts_eq (fuel : Nat) (b : Bytes) :
    Spec.rawExts fuel b = (parseExtsF fuel b).map (List.map toRaw) := by
  fun_induction parseExtsF fuel b <;> simp [Spec.rawExts, toRaw, *]

theorem extsOf_encExts {es : List Ext} (hr : ∀ e ∈ es, e.typ < 65536 ∧ e.data.length < 65536) :
    Spec.extsOf (encExts es) = some (es.map toRaw) :=
  (rawExts_eq _ _).trans (congrArg (Option.map (List.map toRaw)) (parseExts_encExts hr))

theorem encExts_raw (es : List Ext) : Spec.encExts (es.map toRaw) = encExts es := by
  induction es with
  | nil => rfl
  | cons e es ih =>
    simp only [Spec.encExts, List.map_cons, List.flatten_cons] at ih ⊢
    rw [ih]
    simp [Spec.RawExt.enc, toRaw, encExts, List.append_assoc]

theorem fields_body {h : Hello} (r : h.InRange) (hne : h.noExt = false) (after : Bytes) :
    Spec.fields (h.body ++ after) =
      some ⟨u16 h.legacyVersion, h.random, h.sessionId, h.cipherSuites, h.compression, encExts h.exts, after⟩ := by
  have e1 : ∀ t, readN 2 (u16 h.legacyVersion ++ t) = some (u16 h.legacyVersion, t) := fun t => readN_append' _ _ rfl
  have e2 : ∀ t, readN 32 (h.random ++ t) = some (h.random, t) := fun t => readN_append' _ _ r.rnd
  have hne' : ∀ t : Bytes, u16 (encExts h.exts).length ++ t ≠ [] := by simp [u16]
  simp [Spec.fields, Hello.body, Hello.bodyWith_of_ext hne, e1, e2, hne', readLP8_append r.sid, readLP16_append r.cs,
    readLP8_append r.comp, readLP16_append r.block]

theorem recordOf_spec (ver : Nat) (body : Bytes) :
    u8 0x16 ++ u16 ver ++ u16 (u8 1 ++ u24 body.length ++ body).length ++ (u8 1 ++ u24 body.length ++ body) =
      recordOf ver body := by
  have : (u8 1 ++ u24 body.length ++ body).length = 4 + body.length := by
    simp only [List.length_append, u8_length, u24_length]
  rw [this]
  simp only [recordOf, List.append_assoc]

theorem refList_refTypes (fuel : Nat) (b : Bytes) : Spec.refList fuel b = refTypes fuel b := by
  fun_induction refTypes fuel b <;> simp [Spec.refList, *]

/-- `List.span` is defined through this loop, and core has no lemma about either -/
theorem span_loop_snd {α} (p : α → Bool) : ∀ (l acc : List α), (List.span.loop p l acc).2 = l.dropWhile p := by
  intro l
  induction l with
  | nil => intro acc; simp [List.span.loop]
  | cons a as ih =>
    intro acc
    simp only [List.span.loop, List.dropWhile]
    cases p a <;> simp [ih]

theorem splice_refsLoop {ts : List Nat} {outer res : List Ext} (h : refsLoop ts outer = .ok res) :
    Spec.splice (outer.map toRaw) ts = some (res.map toRaw) := by
  fun_induction refsLoop ts outer generalizing res
  all_goals cases h
  case case1 => simp [Spec.splice]
  case case5 t ts rem hnt e rem' hs es hr ih => -- `t` found at `e`
    -- `span` stops where the model's `dropWhile` stops
    have hd : ((rem.map toRaw).span (fun x => decide (x.typ ≠ t))).2 = toRaw e :: rem'.map toRaw := by
      rw [List.span, span_loop_snd, List.dropWhile_map]
      exact congrArg (List.map toRaw) hs
    rw [Spec.splice, if_neg hnt]
    split
    · rename_i heq
      rw [heq] at hd
      cases hd
      simp [ih hr]
    · rename_i heq
      rw [heq] at hd
      cases hd

theorem expand_expandExts {outer inner : List Ext} {seen : Bool} {res : List Ext}
    (h : expandExts outer inner seen = .ok res) :
    Spec.expand (outer.map toRaw) (inner.map toRaw) seen = some (res.map toRaw) := by
  fun_induction expandExts outer inner seen generalizing res
  all_goals cases h
  case case1 => simp [Spec.expand]
  case case3 e es seen hne r hr ih => -- an ordinary extension
    have hne' : ¬ (toRaw e).typ = 0xfd00 := hne
    simp [Spec.expand, hne', ih hr]
  case case8 e es seen heq hseen want rest hlp block hb r hr ih => -- the marker
    obtain ⟨ts, hts, hloop⟩ := refsLoopF_refines hb
    have heq' : (toRaw e).typ = 0xfd00 := Decidable.not_not.mp heq
    have hlp' : readLP8 (toRaw e).data = some (want, rest) := hlp
    simp [Spec.expand, heq', hseen, hlp', refList_refTypes, hts, splice_refsLoop hloop, ih hr]

theorem aadExts_ech {x : Ext} {y : EchExt} {rest : List Spec.RawExt} (hx : x.typ = 0xfe0d)
    (hy : parseEchExt x.data = .ok y) :
    Spec.aadExts (toRaw x :: rest) =
      ⟨0xfe0d, x.data.take (x.data.length - y.payload.length) ++ List.replicate y.payload.length 0⟩ ::
        Spec.aadExts rest := by
  obtain ⟨t, d⟩ := x
  obtain rfl : t = 0xfe0d := hx
  rcases parseEchExt_inv hy with ⟨rfl, rfl⟩ | ⟨_, hel, hpl, hd⟩
  · simp [Spec.aadExts, toRaw, u8] -- type inner: no payload, the data is left alone
  -- `pre`: everything in front of the payload's length prefix
  generalize hpre : u8 0 ++ (u16 y.kdf ++ (u16 y.aead ++ (u8 y.configId ++ (u16 y.enc.length ++ y.enc)))) = pre
  have hlen : pre.length = 8 + y.enc.length := by subst hpre; exact Nat.add_comm _ 8
  have hd' : d = pre ++ u16 y.payload.length ++ y.payload := by
    subst hpre; rw [show d = _ from hd]; simp only [List.append_assoc]
  have h1 := readLP16_append hel (u16 y.payload.length ++ y.payload)
  have h2 := readLP16_append hpl []
  rw [List.append_nil] at h2
  -- the specification matches on the first six bytes, so it is run on `D` in that form, while
  -- the `take` it leaves behind is computed on the `pre ++ …` form
  have step : ∀ D : Bytes, D = 0 :: UInt8.ofNat (y.kdf / 256) :: UInt8.ofNat y.kdf :: UInt8.ofNat (y.aead / 256) ::
      UInt8.ofNat y.aead :: UInt8.ofNat y.configId ::
        (u16 y.enc.length ++ (y.enc ++ (u16 y.payload.length ++ y.payload))) →
      Spec.aadExts (⟨0xfe0d, D⟩ :: rest) =
        ⟨0xfe0d, D.take (8 + y.enc.length) ++ u16 y.payload.length ++ List.replicate y.payload.length 0⟩ ::
          Spec.aadExts rest := by
    rintro D rfl; simp only [Spec.aadExts, if_true, h1, h2]
  rw [show toRaw ⟨0xfe0d, d⟩ = ⟨0xfe0d, d⟩ from rfl, step d hd]
  have t1 : d.take (8 + y.enc.length) = pre := by
    rw [hd', List.append_assoc]; exact List.take_left' hlen
  have t2 : d.take (d.length - y.payload.length) = pre ++ u16 y.payload.length := by
    rw [hd', List.length_append, Nat.add_sub_cancel]; exact List.take_left' rfl
  rw [t1, t2]

theorem putExts_aad {pl : Nat} {es : List Ext} {eb : Bytes}
    (hech : ∀ x ∈ es, x.typ = 0xfe0d → ∃ y, parseEchExt x.data = .ok y ∧ y.payload.length = pl)
    (h : putExts true pl es = .ok eb) : eb = Spec.encExts (Spec.aadExts (es.map toRaw)) := by
  fun_induction putExts true pl es generalizing eb
  all_goals cases h
  case case1 => rfl
  case case2 x xs a b hb ha ih =>
    obtain ⟨hx, hxs⟩ := List.forall_mem_cons.mp hech
    obtain ⟨d, hd, _, rfl⟩ := putExt_ok ha
    rw [ih hxs hb, List.map_cons]
    by_cases ht : x.typ = 0xfe0d
    · obtain ⟨y, hy, rfl⟩ := hx ht
      rw [aadExts_ech ht hy]
      simp [Spec.encExts, Spec.RawExt.enc, hd, ht]
    · have : Spec.aadExts (toRaw x :: xs.map toRaw) = toRaw x :: Spec.aadExts (xs.map toRaw) := by
        simp [Spec.aadExts, toRaw, ht]
      rw [this]
      simp [Spec.encExts, Spec.RawExt.enc, hd, ht, toRaw]

/-- C02_aad_refines_spec for every parsed hello with an extensions field, whatever ECH extension it
    carries, if any -/
theorem marshalAAD_refines_spec {buf : Bytes} {h : Hello} {a : Bytes}
    (hp : parseClientHello buf = .ok h) (hne : h.noExt = false) (ha : h.marshalAAD = .ok a) :
    ∃ after trail, buf = u8 1 ++ (u24 (h.body ++ after).length ++ (h.body ++ after)) ++ trail ∧
      Spec.aadSpec (h.body ++ after) = some a := by
  obtain ⟨after, trail, hbuf, _, hr, hpe, _⟩ := parseClientHello_inv hp
  refine ⟨after, trail, hbuf, ?_⟩
  -- the model's AAD is the body around the extension block `putExts true` writes …
  obtain ⟨eb, hput, _, rfl⟩ := marshalBody_ok.mp (marshalAAD_ok.mp ha).1
  -- … which is the specification's, every ECH extension being the one the payload length is from
  have hech : ∀ x ∈ h.exts, x.typ = 0xfe0d → ∃ y, parseEchExt x.data = .ok y ∧ y.payload.length = h.payloadLen := by
    intro x hx hxt
    obtain ⟨_, y, hy, hdy⟩ := (parseExtensionsFrom_ech hpe).1 x hx hxt
    exact ⟨y, hy, (Hello.payloadLen_of_ech hdy).symm⟩
  rw [putExts_aad hech hput]
  simp [Spec.aadSpec, fields_body hr hne, extsOf_encExts hr.exts, Hello.bodyWith_of_ext hne]

end ECH
