import EchVerif.Spec.DNSName
import EchVerif.Lemmas.DNS
/-
  The name decoder refines the relational RFC 1035 definition of `Spec/DNSName.lean`: on windows
  inside the message, `Labels` (the decoder without fuel and budget, `Lemmas/DNS.lean`) and
  `Spec.NameAtBack` are the same relation.
-/
open Wire
namespace DNS
open Spec

/-- a window lies inside the message: its bytes are the message's bytes at its position -/
def Win.Inside (raw : Bytes) (w : Win) : Prop := ∃ t, raw.drop w.pos = w.b ++ t

theorem Win.inside_whole (raw : Bytes) (p : Nat) : Win.Inside raw ⟨p, raw.drop p⟩ := ⟨[], by simp⟩

theorem Win.Adv.inside {raw : Bytes} {w w' : Win} {k : Nat} (hw : Win.Inside raw w) (h : w.Adv w' k) :
    Win.Inside raw w' := by
  obtain ⟨t, ht⟩ := hw
  obtain ⟨hk, rfl⟩ := h
  exact ⟨t, by rw [← List.drop_drop, ht, List.drop_append_of_le_length hk]⟩

theorem wLP16_inside {raw : Bytes} {w d w' : Win} (hw : Win.Inside raw w) (h : wLP16 w = some (d, w')) :
    Win.Inside raw d := by
  obtain ⟨hp, hb, _⟩ := wLP16_inv h
  obtain ⟨t, ht⟩ := hw
  exact ⟨w'.b ++ t, by rw [hp, ← List.drop_drop, ht, hb]; simp [u16]⟩

theorem drop_eq_cons_iff {raw r : Bytes} {p : Nat} {b : UInt8} :
    raw.drop p = b :: r ↔ raw[p]? = some b ∧ raw.drop (p + 1) = r := by
  constructor
  · intro h
    exact ⟨by simpa [h] using (List.getElem?_drop (xs := raw) (i := p) (j := 0)).symm,
      by rw [← List.drop_drop, h]; rfl⟩
  · rintro ⟨h, rfl⟩
    obtain ⟨hlt, he⟩ := List.getElem?_eq_some_iff.mp h
    rw [List.drop_eq_getElem_cons hlt, he]

theorem Labels.sound {raw : Bytes} {w e : Win} {n : Name} {k : Nat} (h : Labels raw w n k e)
    (hw : Win.Inside raw w) : NameAtBack raw w.pos n k := by
  induction h with
  | @root w rest hb =>
    obtain ⟨t, ht⟩ := hw
    rw [hb] at ht
    exact .root (drop_eq_cons_iff.mp ht).1
  | @label w e b0 lab rest ls k hb hlen hne hnp _ ih =>
    have hadv := Win.Adv.of_append (w := w) (pre := b0 :: lab) hb
    have hr := ih (hadv.inside hw)
    rw [Win.adv_eq (pre := b0 :: lab) hb, List.length_cons, hlen, Nat.add_comm b0.toNat, ← Nat.add_assoc] at hr
    obtain ⟨t, ht⟩ := hw
    rw [hb, List.cons_append, List.append_assoc] at ht
    obtain ⟨h0, h1⟩ := drop_eq_cons_iff.mp ht
    have hle : w.pos + 1 + b0.toNat ≤ raw.length := by
      have := congrArg List.length ht
      simp only [List.length_drop, List.length_cons, List.length_append] at this
      omega
    have hlab : (raw.drop (w.pos + 1)).take b0.toNat = lab := by rw [h1, ← hlen, List.take_left']; rfl
    exact hlab ▸ .label h0 hne hnp hle hr
  | @ptr w e b0 b1 rest n k hb hptr hv1 hv2 _ ih =>
    obtain ⟨t, ht⟩ := hw
    rw [hb] at ht
    obtain ⟨h0, h1⟩ := drop_eq_cons_iff.mp ht
    exact .ptr h0 hptr (drop_eq_cons_iff.mp h1).1 hv2 (ih (Win.inside_whole raw _))

theorem Labels.complete {raw : Bytes} {pos k : Nat} {n : Name} (h : NameAtBack raw pos n k) :
    ∃ e, Labels raw ⟨pos, raw.drop pos⟩ n k e := by
  induction h with
  | @root pos h0 => exact ⟨_, .root (drop_eq_cons_iff.mpr ⟨h0, rfl⟩)⟩
  | @label pos len rest k h0 hne hnp hlen _ ih =>
    obtain ⟨e, he⟩ := ih
    have hlab : ((raw.drop (pos + 1)).take len.toNat).length = len.toNat := by
      rw [List.length_take, List.length_drop]
      exact Nat.min_eq_left (Nat.le_sub_of_add_le (Nat.add_comm (pos + 1) _ ▸ hlen))
    have hw : raw.drop pos = len :: ((raw.drop (pos + 1)).take len.toNat ++ raw.drop (pos + 1 + len.toNat)) :=
      drop_eq_cons_iff.mpr ⟨h0, by rw [← List.drop_drop (i := len.toNat) (j := pos + 1), List.take_append_drop]⟩
    refine ⟨e, .label hw hlab hne hnp ?_⟩
    rw [Win.adv_eq (pre := len :: _) hw, List.length_cons, hlab, Nat.add_comm len.toNat, ← Nat.add_assoc]
    exact he
  | @ptr pos b0 b1 n k h0 hptr h1 hback _ ih =>
    obtain ⟨e, he⟩ := ih
    have hlt := (List.getElem?_eq_some_iff.mp h0).1
    exact ⟨_, .ptr (rest := raw.drop (pos + 2)) (drop_eq_cons_iff.mpr ⟨h0, drop_eq_cons_iff.mpr ⟨h1, rfl⟩⟩) hptr
      (Nat.lt_trans hback hlt) hback he⟩

theorem octets_eq (n : Name) : Spec.octets n = octets n := by
  induction n with
  | nil => rfl
  | cons l ls ih => simp [Spec.octets, octets, ih]

end DNS
