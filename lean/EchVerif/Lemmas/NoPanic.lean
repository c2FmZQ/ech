import EchVerif.Lemmas.Hello
import EchVerif.Lemmas.KeyLoop
/-! Error classes: which errors each function of the model can return; in particular where the
    explicit `.panic` outcomes (Go index / slice / nil-dereference panics) are unreachable.
    Each proof walks the definition (`fun_cases`): a leaf that hands on a callee's error is in the
    callee's class (`.rethrow`), the others are in the class by inspection (`simp`). -/
open Wire TLS
namespace TLS

/-- every error `r` can be is one of `S` -/
def ErrIn {α} (S : List Err) (r : Except Err α) : Prop := ∀ e, r = .error e → e ∈ S

namespace ErrIn
variable {α β : Type} {S T : List Err} {r : Except Err α} {e : Err}

@[simp] theorem ok {a : α} : ErrIn S (.ok a) := nofun

@[simp] theorem error_iff : ErrIn S (.error e : Except Err α) ↔ e ∈ S :=
  ⟨fun h => h e rfl, fun h _ h' => by cases h'; exact h⟩

theorem of_mem (h : e ∈ S) (hs : S ⊆ T := by decide) : ErrIn T (.error e : Except Err α) :=
  error_iff.mpr (hs h)

theorem rethrow {r : Except Err β} (h : ErrIn S r) (he : r = .error e) (hs : S ⊆ T := by decide) :
    ErrIn T (.error e : Except Err α) := of_mem (h e he) hs

theorem mono (h : ErrIn S r) (hs : S ⊆ T := by decide) : ErrIn T r := fun e he => hs (h e he)

theorem bind_ite (h : ErrIn S r) {c : α → Prop} [DecidablePred c] {f : α → β} (he : e ∈ S) :
    ErrIn S (r.bind fun a => if c a then .ok (f a) else .error e) := by
  cases r with
  | error x => simpa [Except.bind] using h
  | ok a => by_cases hc : c a <;> simp [Except.bind, hc, he]

theorem ne_panic (h : ErrIn S r) (he : r = .error e) (hs : Err.panic ∉ S := by decide) : e ≠ .panic :=
  fun hp => hs (hp ▸ h e he)

end ErrIn

theorem sniLoopF_err {fuel : Nat} {b sn : Bytes} : ErrIn [.decode, .illegal] (sniLoopF fuel b sn) := by
  fun_induction sniLoopF fuel b sn
  all_goals simp [*]

theorem alpnLoopF_err {fuel : Nat} {b : Bytes} {acc : List Bytes} : ErrIn [.decode] (alpnLoopF fuel b acc) := by
  fun_induction alpnLoopF fuel b acc
  all_goals simp [*]

theorem versionsLoopF_err {fuel : Nat} {b : Bytes} {acc : Bool} : ErrIn [.decode] (versionsLoopF fuel b acc) := by
  fun_induction versionsLoopF fuel b acc
  all_goals simp [*]

theorem parseEchExt_err {data : Bytes} : ErrIn [.decode, .illegal] (parseEchExt data) := by
  fun_cases parseEchExt data
  all_goals simp

theorem extStep_err {d : Derived} {x : Ext} : ErrIn [.decode, .illegal] (extStep d x) := by
  fun_cases extStep d x
  case case2 h => exact sniLoopF_err.rethrow h
  case case5 h => exact alpnLoopF_err.rethrow h
  case case8 h => exact versionsLoopF_err.rethrow h
  case case12 h => exact parseEchExt_err.rethrow h
  all_goals simp

theorem parseExtensionsFrom_err {d : Derived} {es : List Ext} :
    ErrIn [.decode, .illegal] (parseExtensionsFrom d es) := by
  fun_induction parseExtensionsFrom d es
  case case1 => simp
  case case2 h => exact extStep_err.rethrow h
  case case3 ih => exact ih

theorem parseClientHello_err {buf : Bytes} : ErrIn [.decode, .illegal, .unexpected] (parseClientHello buf) := by
  fun_cases parseClientHello buf
  case case9 h _ => exact parseExtensionsFrom_err.rethrow h -- no extensions field
  case case13 h => exact parseExtensionsFrom_err.rethrow h
  all_goals simp

/-- `.panic` here is the `ext.Data[:n]` slice of `marshal(aad)` -/
theorem putExt_err {aad : Bool} {pl : Nat} {x : Ext} (hl : aad = true → x.typ = 0xfe0d → pl ≤ x.data.length) :
    ErrIn [.other] (putExt aad pl x) := by
  fun_cases putExt aad pl x
  case case1 h hp => exact absurd (hl h.1 h.2) (Nat.not_le.mpr hp)
  all_goals simp

theorem putExts_err {aad : Bool} {pl : Nat} {es : List Ext}
    (hl : aad = true → ∀ x ∈ es, x.typ = 0xfe0d → pl ≤ x.data.length) : ErrIn [.other] (putExts aad pl es) := by
  fun_induction putExts aad pl es
  case case1 => simp
  case case2 => simp
  -- the two leaves that fail: `putExt` on the head (`h`), `putExts` on the tail (`h`, with `ih`)
  case case3 e es _ h _ => exact (putExt_err fun ha => hl ha e (List.mem_cons_self ..)).rethrow h
  case case4 e es _ h _ ih => exact (ih fun ha x hx => hl ha x (List.mem_cons_of_mem _ hx)).rethrow h

theorem marshalBody_err {aad : Bool} {h : Hello}
    (hl : aad = true → ∀ x ∈ h.exts, x.typ = 0xfe0d → h.payloadLen ≤ x.data.length) :
    ErrIn [.other] (marshalBody aad h) :=
  marshalBody_eq aad h ▸ (putExts_err hl).bind_ite (by decide)

theorem marshalRec_err {aad : Bool} {h : Hello}
    (hl : aad = true → ∀ x ∈ h.exts, x.typ = 0xfe0d → h.payloadLen ≤ x.data.length) :
    ErrIn [.other] (marshalRec aad h) :=
  marshalRec_eq aad h ▸ (marshalBody_err hl).bind_ite (by decide)

theorem marshal_err {h : Hello} : ErrIn [.other] h.marshal := marshalRec_err nofun

theorem marshalAAD_err_of_parsed {buf : Bytes} {h : Hello} (hp : parseClientHello buf = .ok h) :
    ErrIn [.other] h.marshalAAD := by
  obtain ⟨_, _, _, _, _, hpe, _⟩ := parseClientHello_inv hp
  -- the ECH extension, if any, is the one the payload length was read from
  have hl : ∀ x ∈ h.exts, x.typ = 0xfe0d → h.payloadLen ≤ x.data.length := by
    intro x hx hxt
    obtain ⟨_, y, hy, he⟩ := (parseExtensionsFrom_ech hpe).1 x hx hxt
    exact Hello.payloadLen_of_ech he ▸ parseEchExt_payload hy
  fun_cases Hello.marshalAAD h
  case case1 hr => exact (marshalRec_err fun _ => hl).rethrow hr
  case case2 m hr hlt => exact absurd (marshalRec_length hr) (Nat.not_le.mpr (Nat.lt_of_lt_of_le hlt (by decide)))
  case case3 => simp

end TLS

namespace ECH

theorem refsLoopF_err {fuel : Nat} {want : Bytes} {outer : List Ext} :
    ErrIn [.decode, .illegal] (refsLoopF fuel want outer) := by
  fun_induction refsLoopF fuel want outer
  case case7 h ih => exact ih.rethrow h
  all_goals simp

theorem expandExts_err {outer inner : List Ext} {seen : Bool} :
    ErrIn [.decode, .illegal] (expandExts outer inner seen) := by
  fun_induction expandExts outer inner seen
  case case2 h ih => exact ih.rethrow h
  case case6 h => exact refsLoopF_err.rethrow h
  case case7 h ih => exact ih.rethrow h
  all_goals simp

theorem decodeInner_err {outer : Hello} {pt : Bytes} :
    ErrIn [.decode, .illegal, .unexpected, .other] (decodeInner outer pt) := by
  fun_cases decodeInner outer pt
  case case2 h => exact parseClientHello_err.rethrow h
  case case4 h => exact expandExts_err.rethrow h
  case case5 h => exact parseExtensionsFrom_err.rethrow h
  all_goals simp

variable {H : Hpke} {st : St} {h : Hello} {r : Bool}

theorem tryKey_fail {ech : EchExt} {k : Key} {x : Err}
    (ha : ErrIn [.other] h.marshalAAD) (ht : tryKey H st h ech k = .fail x) : x ∈ [Err.other, .illegal] := by
  revert ht
  fun_cases tryKey H st h ech k
  all_goals intro ht
  all_goals first | cases ht; done | skip
  case case4 r hc => -- no candidate context
    rcases candCtx_err hc with rfl | rfl | rfl <;> cases ht <;> decide
  case case5 hm => cases ht; exact ha.mono (by decide) _ hm
  case case7 => cases ht; decide -- the public name is not the outer SNI

theorem processCore_err (ha : ErrIn [.other] h.marshalAAD) :
    ErrIn [.decode, .illegal, .unexpected, .other, .decrypt] (processCore H st h r) := by
  fun_cases processCore H st h r
  case case3 hk =>
    obtain ⟨k, _, ht⟩ := keyLoop_mem hk nofun
    exact .of_mem (tryKey_fail ha ht)
  case case6 hd => exact decodeInner_err.rethrow hd
  all_goals simp

/-- `.panic` here is the `c.outer.echExt` nil dereference -/
theorem retryPre_err (hout : (st.outer.bind (·.d.ech)).isSome) :
    ErrIn [.missing, .illegal] (retryPre st h) := by
  fun_cases retryPre st h
  case case4 hn _ => simp [hn] at hout
  all_goals simp

/-- `.panic` here is the `c.inner` nil dereference -/
theorem retryCheck_err {inner : Option Hello} (hin : st.inner.isSome) :
    ErrIn [.illegal] (retryCheck st inner) := by
  fun_cases retryCheck st inner
  case case4 hn => simp [hn] at hin
  all_goals simp

theorem process_err (ha : ErrIn [.other] h.marshalAAD)
    (hout : r = true → (st.outer.bind (·.d.ech)).isSome) :
    ErrIn ([.decode, .illegal, .unexpected, .other, .decrypt] ++ if r then [.missing] else [])
      (process H st h r) := by
  fun_cases process H st h r
  case case1 hr _ hpre => subst hr; exact (retryPre_err (hout rfl)).rethrow hpre
  case case2 => exact (processCore_err ha).mono (List.subset_append_left ..)
  case case3 => exact (processCore_err ha).mono (List.subset_append_left ..)

/-- Only a retried hello can be refused as `missing`. `hin`, `hout`: what the invariant gives on a
    retry; they exclude the two nil dereferences. -/
theorem handle_err (st : St) {record : Bytes} (r : Bool)
    (hin : r = true → st.inner.isSome) (hout : r = true → (st.outer.bind (·.d.ech)).isSome) :
    ErrIn ([.decode, .illegal, .unexpected, .other, .decrypt] ++ if r then [.missing] else [])
      (handle H st record r) := by
  fun_cases handle H st record r
  case case1 hh => exact parseClientHello_err.rethrow hh (by cases r <;> decide)
  case case4 hp _ _ _ hh => -- `hp`: the hello parsed; `hh`: `process` fails
    exact (process_err (marshalAAD_err_of_parsed hp) hout).rethrow hh (List.Subset.refl _)
  case case5 hr _ hrc => subst hr; exact (retryCheck_err (hin rfl)).rethrow hrc
  all_goals simp

theorem inspectWrite_err {st : St} {record : Bytes} : ErrIn [.decode] (inspectWrite st record) := by
  fun_cases inspectWrite st record
  all_goals simp

end ECH
