import EchVerif.DNS.Message
/-! The decoder of `DNS/Message.lean` read backwards: from a successful result to what was read, and where. -/
open Wire
namespace DNS

variable {raw : Bytes} {w w' w'' e : Win}

/-- `w'` is `w` with its first `k` bytes consumed: what every reader leaves behind. That it is shorter
    bounds the work; that it is still a window of the same message locates what is read next. -/
def Win.Adv (w w' : Win) (k : Nat) : Prop := k ≤ w.b.length ∧ w' = ⟨w.pos + k, w.b.drop k⟩

theorem Win.adv_eq {pre rest : Bytes} (h : w.b = pre ++ rest) : w.adv rest = ⟨w.pos + pre.length, rest⟩ := by
  rw [Win.adv, h, List.length_append, Nat.add_sub_cancel]

theorem Win.adv_mk (pos : Nat) (pre rest : Bytes) : (Win.mk pos (pre ++ rest)).adv rest = ⟨pos + pre.length, rest⟩ :=
  Win.adv_eq rfl

theorem Win.adv_adv {a b r1 r2 : Bytes} (h : w.b = a ++ r1) (h' : r1 = b ++ r2) :
    (w.adv r1).adv r2 = w.adv r2 := by
  subst h'
  rw [Win.adv_eq h, Win.adv_mk, Win.adv_eq ((List.append_assoc ..).symm ▸ h), List.length_append, Nat.add_assoc]

theorem Win.Adv.of_append {pre rest : Bytes} (h : w.b = pre ++ rest) : w.Adv (w.adv rest) pre.length :=
  ⟨h ▸ List.length_append ▸ Nat.le_add_right .., by rw [Win.adv_eq h, h, List.drop_left]⟩

theorem Win.Adv.refl (w : Win) : w.Adv w 0 := ⟨Nat.zero_le _, rfl⟩

theorem Win.Adv.trans {j k : Nat} (h1 : w.Adv w' j) (h2 : w'.Adv w'' k) : w.Adv w'' (j + k) := by
  obtain ⟨l1, rfl⟩ := h1
  obtain ⟨l2, rfl⟩ := h2
  rw [List.length_drop] at l2
  exact ⟨by omega, by simp [Nat.add_assoc]⟩

theorem Win.Adv.length {k : Nat} (h : w.Adv w' k) : w'.b.length + k = w.b.length := by
  obtain ⟨l, rfl⟩ := h
  rw [List.length_drop]
  exact Nat.sub_add_cancel l

theorem Win.Adv.of_read {α : Type} {rd : Bytes → Option (α × Bytes)} {len : Nat}
    (inv : ∀ {b v r}, rd b = some (v, r) → ∃ pre, b = pre ++ r ∧ pre.length = len) {v : α}
    (h : (rd w.b).map (fun (v, r) => (v, w.adv r)) = some (v, w')) : w.Adv w' len := by
  rw [Option.map_eq_some_iff] at h
  obtain ⟨⟨_, r⟩, hr, he⟩ := h
  obtain ⟨pre, hb, rfl⟩ := inv hr
  cases he
  exact Win.Adv.of_append hb

theorem wU16_adv {v : Nat} (h : wU16 w = some (v, w')) : w.Adv w' 2 :=
  Win.Adv.of_read (fun h => ⟨_, (readU16_inv h).1, rfl⟩) h

theorem wU32_adv {v : Nat} (h : wU32 w = some (v, w')) : w.Adv w' 4 :=
  Win.Adv.of_read (fun h => ⟨_, (readU32_inv h).1, rfl⟩) h

theorem wLP16_inv {d : Win} (h : wLP16 w = some (d, w')) :
    d.pos = w.pos + 2 ∧ w.b = u16 d.b.length ++ d.b ++ w'.b ∧ w.Adv w' (2 + d.b.length) := by
  rw [wLP16, Option.map_eq_some_iff] at h
  obtain ⟨⟨x, r⟩, hr, he⟩ := h
  cases he
  have hb := (readLP16_inv hr).1
  have hl : (u16 x.length ++ x).length = 2 + x.length := by rw [List.length_append, u16_length]
  exact ⟨rfl, hb, hl ▸ Win.Adv.of_append hb⟩

/-- the 14-bit offset a compression pointer `b0 b1` points to -/
abbrev ptrOff (b0 b1 : UInt8) : Nat := (b0.toNat * 256 + b1.toNat) % 16384

/-- The name decoder without its fuel, its cursor bookkeeping and its budget. `Labels raw w n k e`:
    reading at `w` yields the labels `n`, following `k` pointers; the part of the name that is in
    line (up to the root label or the first pointer) ends at `e`. -/
inductive Labels (raw : Bytes) : Win → Name → Nat → Win → Prop
  | root {w : Win} {rest : Bytes} : w.b = 0 :: rest → Labels raw w [] 0 (w.adv rest)
  | label {w e : Win} {b0 : UInt8} {lab rest : Bytes} {ls : Name} {k : Nat} :
      w.b = b0 :: (lab ++ rest) → lab.length = b0.toNat → b0 ≠ 0 → b0.toNat / 64 ≠ 3 →
      Labels raw (w.adv rest) ls k e → Labels raw w (lab :: ls) k e
  | ptr {w e : Win} {b0 b1 : UInt8} {rest : Bytes} {n : Name} {k : Nat} :
      w.b = b0 :: b1 :: rest → b0.toNat / 64 = 3 → ptrOff b0 b1 < raw.length → ptrOff b0 b1 < w.pos →
      Labels raw ⟨ptrOff b0 b1, raw.drop (ptrOff b0 b1)⟩ n k e → Labels raw w n (k + 1) (w.adv rest)

/-- sum of (label length + 1) -/
def octets : Name → Nat
  | [] => 0
  | l :: ls => l.length + 1 + octets ls

theorem length_le_octets (n : Name) : n.length ≤ octets n := by
  induction n with
  | nil => exact Nat.le_refl 0
  | cons l ls ih =>
    simp only [List.length_cons, octets]
    omega

variable {n : Name} {k : Nat}

theorem labels_of_nameLabelsF (f : Nat) (j : Bool) (cur w : Win) (p s : Nat) :
    ∀ (n : Name) (c : Win), p ≤ maxPointers → s ≤ maxNameOctets → nameLabelsF raw f j cur w p s = some (n, c) →
      ∃ k e, c = (if j then cur else e) ∧ Labels raw w n k e ∧ p + k ≤ maxPointers ∧
        s + octets n ≤ maxNameOctets := by
  -- along the branches of the decoder; all but three of them fail. In each `case` the first six
  -- binders are the function's arguments (fuel j cur w p s), then `b0 r0` with `hw : w.b = b0 :: r0`,
  -- then what the branch tested and read, in the order of the definition, last the induction hypothesis
  fun_induction nameLabelsF raw f j cur w p s <;> intro n c hp hs h
  case case5 _ j _ _ p _ b0 r0 hw hptr hp' v rest hr _ ih =>
    -- pointer: `hptr` the tag, `hp'` the pointer budget, `hr` the `readU16`, `_` the bounds check
    rw [hw] at hr
    cases r0 with
    | nil => cases hr
    | cons b1 r1 =>
      obtain ⟨rfl, rfl⟩ := Prod.mk.inj (Option.some.inj hr)
      obtain ⟨k, e, hc, hl, hk, hs'⟩ := ih n c (Nat.le_of_not_lt hp') hs h
      have hv := not_or.mp ‹_›
      exact ⟨k + 1, _, hc, .ptr hw hptr (Nat.lt_of_not_le hv.1) (Nat.lt_of_not_le hv.2) hl,
        Nat.add_right_comm p 1 k ▸ hk, hs'⟩
  case case7 _ _ _ _ _ _ _ _ hw _ rest hl =>
    -- root label: `hl` the `readLP8`, of an empty label
    cases h
    rw [hw] at hl
    obtain ⟨rfl, rfl⟩ := List.cons.inj (readLP8_inv hl).1
    exact ⟨0, _, rfl, .root hw, hp, hs⟩
  case case10 _ j _ _ _ _ _ _ hw hnp lab rest hl hne hsz ls c' hrec ih =>
    -- label: `hnp` not a pointer, `hl` the `readLP8`, `hne` not empty, `hsz` the octet budget, `hrec` the rest
    cases h
    rw [hw] at hl
    obtain ⟨hb, hlen⟩ := readLP8_inv hl
    obtain ⟨rfl, rfl⟩ := List.cons.inj hb
    have hb0 : lab.length = (UInt8.ofNat lab.length).toNat :=
      (UInt8.toNat_ofNat'.trans (Nat.mod_eq_of_lt hlen)).symm
    obtain ⟨k, e, hc, hl', hk, hs'⟩ := ih ls c' hp (Nat.le_of_not_lt hsz) hrec
    refine ⟨k, e, ?_, .label hw hb0 ?_ hnp hl', hk, Nat.le_trans (Nat.le_of_eq ?_) hs'⟩
    · cases j <;> exact hc
    · intro h0
      rw [h0] at hb0
      exact hne (List.length_eq_zero_iff.mp hb0)
    · simp only [octets, Nat.add_assoc]
  all_goals cases h

theorem nameLabelsF_of_labels (h : Labels raw w n k e) :
    ∀ (f : Nat) (j : Bool) (cur : Win) (p s : Nat), p + k ≤ maxPointers → s + octets n ≤ maxNameOctets →
      k + n.length < f → nameLabelsF raw f j cur w p s = some (n, if j then cur else e) := by
  induction h with
  | @root w rest hw =>
    intro f j cur p s _ _ hf
    cases f with
    | zero => cases hf
    | succ f => simp [nameLabelsF, hw, readLP8, readU8, readN]
  | @label w e b0 lab rest ls k hw hlen hne hnp _ ih =>
    intro f j cur p s hp hs hf
    cases f with
    | zero => cases hf
    | succ f =>
      have hnil : lab ≠ [] := fun h0 => hne (UInt8.toNat_inj.mp (h0 ▸ hlen).symm)
      have hrd : readLP8 (b0 :: (lab ++ rest)) = some (lab, rest) := by
        exact readN_append' lab rest hlen
      simp only [octets, ← Nat.add_assoc] at hs
      rw [nameLabelsF, hw]
      simp only [hrd, if_neg hnp, if_neg hnil, if_neg (Nat.not_lt.mpr (Nat.le_trans (Nat.le_add_right ..) hs)),
        ih f j _ p _ hp hs (Nat.lt_of_succ_lt_succ hf)]
      cases j <;> rfl
  | @ptr w e b0 b1 rest n k hw hptr hv1 hv2 _ ih =>
    intro f j cur p s hp hs hf
    cases f with
    | zero => cases hf
    | succ f =>
      rw [Nat.succ_add] at hf
      rw [nameLabelsF, hw]
      simp only [if_pos hptr, readU16]
      rw [if_neg (Nat.not_lt.mpr (Nat.le_trans (Nat.add_le_add_left (Nat.le_add_left 1 k) p) hp)),
        if_neg (not_or.mpr ⟨Nat.not_le.mpr hv1, Nat.not_le.mpr hv2⟩),
        ih f true _ (p + 1) s (Nat.add_right_comm p 1 k ▸ hp) hs (Nat.lt_of_succ_lt_succ hf)]
      rfl

/-- An iteration follows a pointer or reads a label of at least one octet, so fuel that covers what
    is left of the budget is never what ends the loop. -/
theorem nameLabelsF_iff {f : Nat} {j : Bool} {cur c : Win} {p s : Nat}
    (hp : p ≤ maxPointers) (hs : s ≤ maxNameOctets) (hf : maxPointers + maxNameOctets < f + p + s) :
    nameLabelsF raw f j cur w p s = some (n, c) ↔
      ∃ k e, c = (if j then cur else e) ∧ Labels raw w n k e ∧ p + k ≤ maxPointers ∧
        s + octets n ≤ maxNameOctets :=
  ⟨labels_of_nameLabelsF f j cur w p s n c hp hs,
   fun ⟨k, _, hc, hl, hk, ho⟩ => hc ▸ nameLabelsF_of_labels hl f j cur p s hk ho (by
    have := length_le_octets n
    omega)⟩

theorem readName_iff : readName raw w = some (n, w') ↔ ∃ k, Labels raw w n k w' ∧ k ≤ 255 ∧ octets n ≤ 255 := by
  rw [readName, nameLabelsF_iff (Nat.zero_le _) (Nat.zero_le _) (by decide)]
  simp [maxPointers, maxNameOctets]

theorem Labels.adv (h : Labels raw w n k e) : ∃ d, 1 ≤ d ∧ w.Adv e d := by
  induction h with
  | @root w rest hw => exact ⟨1, Nat.le_refl _, Win.Adv.of_append (pre := [0]) hw⟩
  | @label w e b0 lab rest ls k hw _ _ _ _ ih =>
    obtain ⟨d, _, hd⟩ := ih
    exact ⟨_, Nat.lt_of_lt_of_le (Nat.succ_pos lab.length) (Nat.le_add_right _ d),
      (Win.Adv.of_append (pre := b0 :: lab) hw).trans hd⟩
  | @ptr w e b0 b1 rest n k hw _ _ _ _ _ => exact ⟨2, by decide, Win.Adv.of_append (pre := [b0, b1]) hw⟩

theorem readName_adv (h : readName raw w = some (n, w')) : ∃ d, 1 ≤ d ∧ w.Adv w' d :=
  have ⟨_, hl, _⟩ := readName_iff.mp h
  hl.adv

theorem decodeRR_inv {rr : RR} (h : decodeRR raw w = some (rr, w')) :
    ∃ w1 w2 w3 w4 data, readName raw w = some (rr.name, w1) ∧ wU16 w1 = some (rr.typ, w2) ∧
      wU16 w2 = some (rr.cls, w3) ∧ wU32 w3 = some (rr.ttl, w4) ∧ wLP16 w4 = some (data, w') ∧
      decodeRData raw rr.typ data = some rr.data := by
  revert h
  fun_cases decodeRR raw w <;> intro h
  -- the branch where all five reads succeed; per read: value, window behind it, equation
  case case6 _ w1 h1 _ w2 h2 _ w3 h3 _ w4 h4 data _ h5 =>
    rw [Option.map_eq_some_iff] at h
    obtain ⟨d, hd, he⟩ := h
    cases he
    exact ⟨w1, w2, w3, w4, data, h1, h2, h3, h4, h5, hd⟩
  all_goals cases h

theorem decodeRR_adv {rr : RR} (h : decodeRR raw w = some (rr, w')) : ∃ k, 11 ≤ k ∧ w.Adv w' k := by
  obtain ⟨w1, w2, w3, w4, data, h1, h2, h3, h4, h5, _⟩ := decodeRR_inv h
  obtain ⟨d, hd, a1⟩ := readName_adv h1
  exact ⟨_, by omega, (((a1.trans (wU16_adv h2)).trans (wU16_adv h3)).trans (wU32_adv h4)).trans (wLP16_inv h5).2.2⟩

theorem decodeRRs_inv {n : Nat} {l : List RR} (h : decodeRRs raw n w = some (l, w')) :
    l.length = n ∧ (∃ k, 11 * n ≤ k ∧ w.Adv w' k) ∧
    ∀ rr ∈ l, ∃ j wa wb, w.Adv wa j ∧ decodeRR raw wa = some (rr, wb) := by
  induction n generalizing w l with
  | zero =>
    obtain ⟨rfl, rfl⟩ := Prod.mk.inj (Option.some.inj h)
    exact ⟨rfl, ⟨0, Nat.le_refl _, .refl w⟩, fun _ hx => absurd hx List.not_mem_nil⟩
  | succ n ih =>
    rw [decodeRRs] at h
    split at h
    · cases h
    next rr w1 h1 =>
    rw [Option.map_eq_some_iff] at h
    obtain ⟨⟨l', w2⟩, hr, he⟩ := h
    cases he
    obtain ⟨k1, hk1, a1⟩ := decodeRR_adv h1
    obtain ⟨hl, ⟨k2, hk2, a2⟩, hall⟩ := ih hr
    refine ⟨congrArg (· + 1) hl, ⟨_, by omega, a1.trans a2⟩, ?_⟩
    intro x hx
    rcases List.mem_cons.mp hx with rfl | hx
    · exact ⟨0, w, w1, .refl w, h1⟩
    · obtain ⟨j, wa, wb, ha, hd⟩ := hall x hx
      exact ⟨_, wa, wb, a1.trans ha, hd⟩

theorem decodeQuestions_inv {n : Nat} {l : List Question} (h : decodeQuestions raw n w = some (l, w')) :
    l.length = n ∧ (∃ k, 5 * n ≤ k ∧ w.Adv w' k) ∧
    ∀ q ∈ l, ∃ j wa wb, w.Adv wa j ∧ readName raw wa = some (q.name, wb) := by
  induction n generalizing w l with
  | zero =>
    obtain ⟨rfl, rfl⟩ := Prod.mk.inj (Option.some.inj h)
    exact ⟨rfl, ⟨0, Nat.le_refl _, .refl w⟩, fun _ hx => absurd hx List.not_mem_nil⟩
  | succ n ih =>
    rw [decodeQuestions] at h
    split at h
    · cases h
    next nm w1 h1 =>
    split at h
    · cases h
    next t w2 h2 =>
    split at h
    · cases h
    next c w3 h3 =>
    rw [Option.map_eq_some_iff] at h
    obtain ⟨⟨l', w4⟩, hr, he⟩ := h
    cases he
    obtain ⟨d, hd, a1⟩ := readName_adv h1
    have a3 := (a1.trans (wU16_adv h2)).trans (wU16_adv h3)
    obtain ⟨hl, ⟨k2, hk2, a2⟩, hall⟩ := ih hr
    refine ⟨congrArg (· + 1) hl, ⟨_, by omega, a3.trans a2⟩, ?_⟩
    intro x hx
    rcases List.mem_cons.mp hx with rfl | hx
    · exact ⟨0, w, w1, .refl w, h1⟩
    · obtain ⟨j, wa, wb, ha, hd⟩ := hall x hx
      exact ⟨_, wa, wb, a3.trans ha, hd⟩

theorem decode_inv {m : Message} (h : decode raw = some m) :
    12 ≤ raw.length ∧ ∃ qd an ns ar w1 w2 w3 w4,
      decodeQuestions raw qd ⟨12, raw.drop 12⟩ = some (m.question, w1) ∧ decodeRRs raw an w1 = some (m.answer, w2) ∧
      decodeRRs raw ns w2 = some (m.authority, w3) ∧ decodeRRs raw ar w3 = some (m.additional, w4) := by
  revert h
  fun_cases decode raw <;> intro h
  -- the one branch that succeeds. Per header word (id, flags, four counts): value, rest, equation;
  -- per section: list, window behind it, equation
  case case11 _ _ h1 _ _ h2 qd _ h3 an _ h4 ns _ h5 ar _ h6 _ w1 hq _ w2 ha _ w3 hb _ w4 hc =>
    cases h
    obtain rfl := (readU16_inv h1).1
    obtain rfl := (readU16_inv h2).1
    obtain rfl := (readU16_inv h3).1
    obtain rfl := (readU16_inv h4).1
    obtain rfl := (readU16_inv h5).1
    obtain rfl := (readU16_inv h6).1
    refine ⟨?_, qd, an, ns, ar, w1, w2, w3, w4, hq, ha, hb, hc⟩
    simp only [List.length_append, u16_length]
    omega
  all_goals cases h

theorem decode_parts {m : Message} (h : decode raw = some m) :
    (∀ q ∈ m.question, ∃ j w w', (Win.mk 12 (raw.drop 12)).Adv w j ∧ readName raw w = some (q.name, w')) ∧
    ∀ rr ∈ m.answer ++ m.authority ++ m.additional,
      ∃ j w w', (Win.mk 12 (raw.drop 12)).Adv w j ∧ decodeRR raw w = some (rr, w') := by
  obtain ⟨_, qd, an, ns, ar, w1, w2, w3, w4, hq, ha, hb, hc⟩ := decode_inv h
  obtain ⟨_, ⟨_, _, q⟩, hq'⟩ := decodeQuestions_inv hq
  obtain ⟨_, ⟨_, _, a⟩, ha'⟩ := decodeRRs_inv ha
  obtain ⟨_, ⟨_, _, b⟩, hb'⟩ := decodeRRs_inv hb
  obtain ⟨_, _, hc'⟩ := decodeRRs_inv hc
  refine ⟨hq', fun rr hrr => ?_⟩
  rcases List.mem_append.mp hrr with hrr | hrr
  · rcases List.mem_append.mp hrr with hrr | hrr
    · obtain ⟨_, w, w', hw, hd⟩ := ha' rr hrr
      exact ⟨_, w, w', q.trans hw, hd⟩
    · obtain ⟨_, w, w', hw, hd⟩ := hb' rr hrr
      exact ⟨_, w, w', (q.trans a).trans hw, hd⟩
  · obtain ⟨_, w, w', hw, hd⟩ := hc' rr hrr
    exact ⟨_, w, w', ((q.trans a).trans b).trans hw, hd⟩

/-- the Go dynamic type of RR.Data implied by the record type -/
def TypeMatches (typ : Nat) : RData → Prop
  | .ip _ => typ = 1 ∨ typ = 28
  | .name _ => typ = 2 ∨ typ = 5 ∨ typ = 12
  | .soa .. => typ = 6
  | .mx .. => typ = 15
  | .txt _ => typ = 16
  | .loc => typ = 29
  | .srv .. => typ = 33
  | .cert .. => typ = 37
  | .opt _ => typ = 41
  | .ds .. => typ = 43
  | .rrsig .. => typ = 46
  | .nsec .. => typ = 47
  | .dnskey .. => typ = 48
  | .svcb .. => typ = 64
  | .https _ => typ = 65
  | .uri .. => typ = 256
  | .caa .. => typ = 257
  | .raw _ => typ ∉ [1, 2, 5, 12, 6, 15, 16, 28, 29, 33, 37, 41, 43, 46, 47, 48, 64, 65, 256, 257]

variable {typ : Nat} {data : Win} {d : RData}

theorem TypeMatches.of_map {α : Type} {o : Option α} {f : α → RData} (h : o.map f = some d)
    (hf : ∀ a, TypeMatches typ (f a)) : TypeMatches typ d := by
  obtain ⟨a, _, rfl⟩ := Option.map_eq_some_iff.mp h
  exact hf a

-- the type switch at the types the encoder writes and the resolver reads

theorem decodeRData_a : decodeRData raw 1 data = if data.b.length = 4 then some (.ip data.b) else none := by
  simp [decodeRData]

theorem decodeRData_aaaa : decodeRData raw 28 data = if data.b.length = 16 then some (.ip data.b) else none := by
  simp [decodeRData]

theorem decodeRData_name (h : typ = 2 ∨ typ = 5 ∨ typ = 12) :
    decodeRData raw typ data = (readName raw data).map fun (n, _) => .name n := by
  rw [decodeRData, if_neg (by omega), if_pos h]

theorem decodeRData_opt : decodeRData raw 41 data = (optsF data.b.length data.b).map .opt := by
  simp [decodeRData]

theorem decodeRData_https : decodeRData raw 65 data = decHTTPS raw data := by
  simp [decodeRData]

/-- the `switch key` of the parameter loop -/
def hpInterp (k : Nat) (v : Bytes) (h : Https) : Option Https :=
  if k = 1 then (lp8ListF v.length v).map fun l => { h with alpn := h.alpn ++ l }
  else if k = 2 then some { h with noDefaultALPN := true }
  else if k = 3 then (readU16 v).map fun (p, _) => { h with port := p }
  else if k = 4 then (chunksOfF v.length 4 v).map fun l => { h with v4 := h.v4 ++ l }
  else if k = 5 then some { h with ech := v }
  else if k = 6 then (chunksOfF v.length 16 v).map fun l => { h with v6 := h.v6 ++ l }
  else some h

theorem hpInterp_1 (v : Bytes) (h : Https) :
    hpInterp 1 v h = (lp8ListF v.length v).map fun l => { h with alpn := h.alpn ++ l } := rfl
theorem hpInterp_2 (v : Bytes) (h : Https) : hpInterp 2 v h = some { h with noDefaultALPN := true } := rfl
theorem hpInterp_3 (v : Bytes) (h : Https) :
    hpInterp 3 v h = (readU16 v).map fun (p, _) => { h with port := p } := rfl
theorem hpInterp_4 (v : Bytes) (h : Https) :
    hpInterp 4 v h = (chunksOfF v.length 4 v).map fun l => { h with v4 := h.v4 ++ l } := rfl
theorem hpInterp_5 (v : Bytes) (h : Https) : hpInterp 5 v h = some { h with ech := v } := rfl
theorem hpInterp_6 (v : Bytes) (h : Https) :
    hpInterp 6 v h = (chunksOfF v.length 16 v).map fun l => { h with v6 := h.v6 ++ l } := rfl

theorem hpInterp_target {k : Nat} {v : Bytes} {h h' : Https} : hpInterp k v h = some h' → h'.target = h.target := by
  fun_cases hpInterp k v h <;> intro e
  -- keys 2, 5 and the unknown ones carry no value to parse; the others map over a parser
  case case2 | case5 | case7 =>
    cases e
    rfl
  all_goals
    obtain ⟨_, _, rfl⟩ := Option.map_eq_some_iff.mp e
    rfl

theorem httpsParamsF_nil (fuel : Nat) (h : Https) : httpsParamsF fuel [] h = some h := by
  cases fuel <;> simp [httpsParamsF]

theorem httpsParamsF_succ (fuel : Nat) (b : Bytes) (h : Https) :
    httpsParamsF (fuel + 1) b h = if b = [] then some h else
      (readU16 b).bind fun (k, r) => (readLP16 r).bind fun (v, r2) =>
        (hpInterp k v h).bind (httpsParamsF fuel r2) := by
  -- `by_cases` and not `split`: splitting the whole body is dear
  by_cases hb : b = []
  · rw [if_pos hb, hb, httpsParamsF_nil]
  rw [if_neg hb, httpsParamsF, if_neg hb]
  cases readU16 b with
  | none => rfl
  | some x =>
    obtain ⟨k, r⟩ := x
    dsimp only [Option.bind_some]
    cases readLP16 r with
    | none => rfl
    | some y =>
      obtain ⟨v, r2⟩ := y
      show (match hpInterp k v h with
        | none => none
        | some h'' => httpsParamsF fuel r2 h'') = (hpInterp k v h).bind (httpsParamsF fuel r2)
      cases hpInterp k v h <;> rfl

theorem httpsParamsF_target {fuel : Nat} {b : Bytes} {h h' : Https}
    (e : httpsParamsF fuel b h = some h') : h'.target = h.target := by
  induction fuel generalizing b h with
  | zero =>
    rw [httpsParamsF] at e
    split at e <;> cases e
    rfl
  | succ f ih =>
    rw [httpsParamsF_succ] at e
    split at e
    · cases e
      rfl
    · simp only [Option.bind_eq_some_iff] at e
      obtain ⟨_, _, _, _, h'', hi, e⟩ := e
      exact (ih e).trans (hpInterp_target hi)

theorem decHTTPS_inv (h : decHTTPS raw data = some d) :
    ∃ p w1 w2 x, wU16 data = some (p, w1) ∧ readName raw w1 = some (x.target, w2) ∧ d = .https x := by
  revert h
  fun_cases decHTTPS raw data <;> intro h
  case case3 p w1 h1 n w2 h2 =>
    obtain ⟨x, hx, rfl⟩ := Option.map_eq_some_iff.mp h
    exact ⟨p, w1, w2, x, h1, httpsParamsF_target hx ▸ h2, rfl⟩
  all_goals cases h

/-- how many resource records the section loop starts to decode when the header announces `n` of them: it
    stops at the first record that does not decode (instrumented copy of the recursion of `decodeRRs`) -/
def rrIters (raw : Bytes) : Nat → Win → Nat
  | 0, _ => 0
  | n+1, w =>
    match decodeRR raw w with
    | none => 1
    | some (_, w1) => 1 + rrIters raw n w1

/-- the same for the question section -/
def qIters (raw : Bytes) : Nat → Win → Nat
  | 0, _ => 0
  | n+1, w =>
    match decodeQuestions raw 1 w with
    | none => 1
    | some (_, w1) => 1 + qIters raw n w1

theorem rrIters_le (raw : Bytes) (n : Nat) (w : Win) : rrIters raw n w ≤ n := by
  induction n generalizing w with
  | zero => exact Nat.le_refl 0
  | succ k ih =>
    rw [rrIters]
    split
    · exact Nat.succ_pos k
    next w1 _ => exact Nat.add_comm 1 _ ▸ Nat.add_le_add_left (ih w1) 1

theorem rrIters_bound (raw : Bytes) (n : Nat) (w : Win) : 11 * rrIters raw n w ≤ w.b.length + 11 := by
  induction n generalizing w with
  | zero => exact Nat.zero_le _
  | succ k ih =>
    rw [rrIters]
    split
    · exact Nat.le_add_left ..
    next w1 h1 =>
      obtain ⟨_, _, a⟩ := decodeRR_adv h1
      have := a.length
      have := ih w1
      omega

theorem rrIters_ok {n : Nat} {l : List RR} (h : decodeRRs raw n w = some (l, w')) : rrIters raw n w = n := by
  induction n generalizing w w' l with
  | zero => rfl
  | succ k ih =>
    rw [decodeRRs] at h
    rw [rrIters]
    split at h
    · cases h
    next rr w1 h1 =>
      obtain ⟨⟨l', w2⟩, hr, _⟩ := Option.map_eq_some_iff.mp h
      rw [h1]
      exact (Nat.add_comm 1 _).trans (congrArg (· + 1) (ih hr))

theorem qIters_bound (raw : Bytes) (n : Nat) (w : Win) : 5 * qIters raw n w ≤ w.b.length + 5 := by
  induction n generalizing w with
  | zero => exact Nat.zero_le _
  | succ k ih =>
    rw [qIters]
    split
    · exact Nat.le_add_left ..
    next w1 h1 =>
      obtain ⟨_, ⟨_, _, a⟩, _⟩ := decodeQuestions_inv h1
      have := a.length
      have := ih w1
      omega

end DNS
