import EchVerif.Resolve.CacheLts
/-
  Invariants of the fine-grained cache model (Resolve/CacheLts.lean), by induction over schedules.
-/
namespace CacheLts

@[simp] theorem setTh_ths (s : St) (t : Nat) (th : Th) (i : Nat) :
    (s.setTh t th).ths i = if i = t then th else s.ths i := rfl
@[simp] theorem setTh_objs (s : St) (t : Nat) (th : Th) : (s.setTh t th).objs = s.objs := rfl
@[simp] theorem setTh_now (s : St) (t : Nat) (th : Th) : (s.setTh t th).now = s.now := rfl
@[simp] theorem setObj_objs (s : St) (o : Nat) (ob : Obj) (i : Nat) :
    (s.setObj o ob).objs i = if i = o then ob else s.objs i := rfl
@[simp] theorem setObj_ths (s : St) (o : Nat) (ob : Obj) : (s.setObj o ob).ths = s.ths := rfl
@[simp] theorem setObj_now (s : St) (o : Nat) (ob : Obj) : (s.setObj o ob).now = s.now := rfl

theorem run_inv {P : St → Prop} (hstep : ∀ s s' l, P s → step false s l = some s' → P s')
    (s s' : St) (ls : List Label) (hi : P s) (h : run false s ls = some s') : P s' := by
  induction ls generalizing s with
  | nil => cases h; exact hi
  | cons l ls ih =>
    rw [run] at h
    split at h
    · cases h
    · exact ih _ (hstep s _ l hi ‹_›) h

variable {s : St} {t : Nat}

/-- the goroutine is inside the critical section of entry `o` -/
def Pc.inCS : Pc → Nat → Prop
  | .locked o' _, o => o' = o
  | .fetching o', o => o' = o
  | _, _ => False

/-- a stored or copied (expiration, result) pair belongs together -/
def PairOk (now : Nat) (exp : Option Nat) (res : Option Fetch) : Prop :=
  ∀ e, exp = some e → ∃ f, res = some f ∧ e = f.rcvd + f.ttl ∧ f.rcvd ≤ now

/-- what goroutine `t` in local state `th` relies on -/
def ThOk (now : Nat) (objs : Nat → Obj) (t : Nat) (th : Th) : Prop :=
  th.startedAt ≤ now ∧
  match th.pc with
  | .snap _ exp res => PairOk now exp res
  | .locked o _ => (objs o).holder = some t
  | .fetching o => (objs o).holder = some t ∧ fresh (objs o).exp now = false
  | .done r τ own =>
      th.startedAt ≤ τ ∧ τ ≤ now ∧
      ∃ f, r = some f ∧ (own = true → f.rcvd = τ) ∧ (own = false → f.rcvd ≤ τ ∧ τ < f.rcvd + f.ttl)
  | _ => True

structure Inv (s : St) : Prop where
  objs : ∀ o, PairOk s.now (s.objs o).exp (s.objs o).res
  ths : ∀ t, ThOk s.now s.objs t (s.ths t)
  held : ∀ o t, (s.objs o).holder = some t → (s.ths t).pc.inCS o

theorem PairOk.mono {now now' : Nat} {exp res} (h : PairOk now exp res) (hle : now ≤ now') : PairOk now' exp res := by
  intro e he
  obtain ⟨f, h1, h2, h3⟩ := h e he
  exact ⟨f, h1, h2, Nat.le_trans h3 hle⟩

theorem fresh_true {exp : Option Nat} {now : Nat} (h : fresh exp now = true) : ∃ e, exp = some e ∧ now < e := by
  unfold fresh at h
  split at h
  · exact ⟨_, rfl, by simpa using h⟩
  · cases h

theorem fresh_false_mono {exp : Option Nat} {now now' : Nat} (h : fresh exp now = false) (hle : now ≤ now') :
    fresh exp now' = false := by
  unfold fresh at *
  split
  · simp only [decide_eq_false_iff_not] at h ⊢
    omega
  · rfl

section ThOk
variable {now : Nat} {objs : Nat → Obj} {th : Th} {o : Nat}

theorem ThOk.snap {exp res} (h : ThOk now objs t th) (hpc : th.pc = .snap o exp res) : PairOk now exp res := by
  unfold ThOk at h; rw [hpc] at h; exact h.2

theorem ThOk.holder (h : ThOk now objs t th) (hcs : th.pc.inCS o) : (objs o).holder = some t := by
  unfold ThOk at h
  cases hpc : th.pc <;> rw [hpc] at h hcs <;> cases hcs
  · exact h.2
  · exact h.2.1

theorem ThOk.expired (h : ThOk now objs t th) (hpc : th.pc = .fetching o) : fresh (objs o).exp now = false := by
  unfold ThOk at h; rw [hpc] at h; exact h.2.2

theorem ThOk.done {r τ own} (h : ThOk now objs t th) (hpc : th.pc = .done r τ own) :
    th.startedAt ≤ τ ∧ τ ≤ now ∧
      ∃ f, r = some f ∧ (own = true → f.rcvd = τ) ∧ (own = false → f.rcvd ≤ τ ∧ τ < f.rcvd + f.ttl) := by
  unfold ThOk at h; rw [hpc] at h; exact h.2

theorem ThOk.frame {now' : Nat} {objs' : Nat → Obj} (h : ThOk now objs t th) (hnow : now ≤ now')
    (hobj : ∀ o, (objs o).holder = some t → objs' o = objs o) : ThOk now' objs' t th := by
  refine ⟨Nat.le_trans h.1 hnow, ?_⟩
  have h2 := h.2
  split
  · rename_i hpc; rw [hpc] at h2; exact h2.mono hnow
  · rename_i hpc; rw [hpc] at h2; rw [hobj _ h2]; exact h2
  · rename_i hpc; rw [hpc] at h2; rw [hobj _ h2.1]; exact ⟨h2.1, fresh_false_mono h2.2 hnow⟩
  · rename_i hpc; rw [hpc] at h2; exact ⟨h2.1, Nat.le_trans h2.2.1 hnow, h2.2.2⟩
  · trivial

end ThOk

theorem inv_init : Inv init := ⟨fun _ _ => nofun, fun _ => ⟨Nat.le_refl _, trivial⟩, fun _ _ => nofun⟩

theorem Inv.frame (hi : Inv s) (n : Nat) (c : Option Nat) : Inv { s with nObjs := n, cur := c } :=
  ⟨hi.objs, hi.ths, hi.held⟩

theorem Inv.tick (hi : Inv s) (d : Nat) : Inv { s with now := s.now + d } :=
  ⟨fun o => (hi.objs o).mono (Nat.le_add_right _ _),
   fun t => (hi.ths t).frame (Nat.le_add_right _ _) fun _ _ => rfl, hi.held⟩

theorem Inv.setTh (hi : Inv s) (t : Nat) (th : Th) (hcs : ∀ o, (s.ths t).pc.inCS o → th.pc.inCS o)
    (hnew : ThOk s.now s.objs t th) : Inv (s.setTh t th) := by
  refine ⟨hi.objs, fun t' => ?_, fun o t' hh => ?_⟩
  · by_cases hne : t' = t
    · subst hne; simpa using hnew
    · simpa [hne] using hi.ths t'
  · have := hi.held o t' hh
    by_cases hne : t' = t
    · subst hne; simpa using hcs o this
    · simpa [hne] using this

theorem Inv.setBoth (hi : Inv s) (t o : Nat) (th : Th) (ob : Obj)
    (hfree : (s.objs o).holder = none ∨ (s.objs o).holder = some t)
    (hone : ∀ o', (s.ths t).pc.inCS o' → o' = o)
    (hpair : PairOk s.now ob.exp ob.res)
    (hheld : ob.holder = none ∨ (ob.holder = some t ∧ th.pc.inCS o))
    (hnew : ThOk s.now ((s.setTh t th).setObj o ob).objs t th) : Inv ((s.setTh t th).setObj o ob) := by
  refine ⟨fun o' => ?_, fun t' => ?_, fun o' t' hh => ?_⟩
  · by_cases ho : o' = o
    · subst ho; simpa using hpair
    · simpa [ho] using hi.objs o'
  · by_cases hne : t' = t
    · subst hne; simpa using hnew
    · have := (hi.ths t').frame (Nat.le_refl _) (objs' := ((s.setTh t th).setObj o ob).objs) fun o' hh => by
        by_cases ho : o' = o
        · subst ho
          rcases hfree with h1 | h1 <;> rw [h1] at hh <;> cases hh
          exact absurd rfl hne
        · simp [ho]
      simpa [hne] using this
  · by_cases ho : o' = o
    · subst ho
      simp only [setObj_objs, if_true] at hh
      rcases hheld with h1 | ⟨h1, h2⟩ <;> rw [h1] at hh <;> cases hh
      simpa using h2
    · simp only [setObj_objs, ho] at hh
      have := hi.held o' t' hh
      by_cases hne : t' = t
      · subst hne; exact absurd (hone o' this) ho
      · simpa [hne] using this

theorem inv_step (s s' : St) (l : Label) (hi : Inv s) (h : step false s l = some s') : Inv s' := by
  have ht := hi.ths
  revert h
  -- the branches of `step`, in order; those returning `none` close at once, in the others `s'` is the new state
  fun_cases step false s l <;> rintro ⟨⟩
  case case1 d => exact hi.tick d
  case case2 => exact hi.frame _ _
  -- call (from `idle`, `done`, `failed`; key mapped or not)
  case case3 t hpc _ _ | case4 t hpc _ | case5 t _ _ _ hpc _ _ | case6 t _ _ _ hpc _ | case7 t hpc _ _ | case8 t hpc _ =>
    exact hi.setTh t _ (by rw [hpc]; nofun) ⟨Nat.le_refl _, trivial⟩
  case case10 t hpc => -- add
    exact (hi.setTh t ⟨.got s.nObjs, _⟩ (by rw [hpc]; nofun) ⟨(ht t).1, trivial⟩).frame _ _
  case case12 t o hpc _ => -- snapshot
    exact hi.setTh t _ (by rw [hpc]; nofun) ⟨(ht t).1, hi.objs o⟩
  case case15 t o exp res hpc hf =>
    -- fastCheck, served: the snapshot is fresh at this very reading of the clock
    obtain ⟨e, he, hlt⟩ := fresh_true hf
    obtain ⟨f, hf1, hf2, hf3⟩ := (ht t).snap hpc e he
    exact hi.setTh t _ (by rw [hpc]; nofun)
      ⟨(ht t).1, (ht t).1, Nat.le_refl _, f, hf1, nofun, fun _ => ⟨hf3, by omega⟩⟩
  case case16 t o exp res hpc _ => -- fastCheck, expired
    exact hi.setTh t _ (by rw [hpc]; nofun) ⟨(ht t).1, trivial⟩
  case case18 t o sr hpc hfree => -- acquire
    exact hi.setBoth t o _ _ (.inl hfree) (by rw [hpc]; nofun) (hi.objs o) (.inr ⟨rfl, rfl⟩)
      ⟨(ht t).1, by simp⟩
  case case21 t o sr hpc hf =>
    -- recheck, served: the entry, read under its lock, is fresh at this reading of the clock
    obtain ⟨e, he, hlt⟩ := fresh_true hf
    obtain ⟨f, hf1, hf2, hf3⟩ := hi.objs o e he
    exact hi.setBoth t o _ _ (.inr ((ht t).holder (by rw [hpc]; rfl))) (by rw [hpc]; exact fun _ h => h.symm)
      (hi.objs o) (.inl rfl) ⟨(ht t).1, (ht t).1, Nat.le_refl _, f, hf1, nofun, fun _ => ⟨hf3, by omega⟩⟩
  case case22 t o sr hpc hf => -- recheck, expired
    exact hi.setTh t _ (by rw [hpc]; exact fun _ h => h)
      ⟨(ht t).1, (ht t).holder (by rw [hpc]; rfl), Bool.eq_false_iff.mpr hf⟩
  case case24 t val ttl o hpc => -- fetchOk
    exact hi.setBoth t o _ _ (.inr ((ht t).holder (by rw [hpc]; rfl))) (by rw [hpc]; exact fun _ h => h.symm)
      (fun e he => ⟨_, rfl, (Option.some.inj he).symm, Nat.le_refl _⟩) (.inl rfl)
      ⟨(ht t).1, (ht t).1, Nat.le_refl _, _, rfl, fun _ => rfl, nofun⟩
  case case26 t o hpc => -- fetchErr
    exact (hi.setBoth t o ⟨.failed, _⟩ { s.objs o with holder := none } (.inr ((ht t).holder (by rw [hpc]; rfl)))
      (by rw [hpc]; exact fun _ h => h.symm) (hi.objs o) (.inl rfl) ⟨(ht t).1, trivial⟩).frame _ _

def Pc.obj : Pc → Option Nat
  | .got o | .snap o _ _ | .want o _ | .locked o _ | .fetching o => some o
  | _ => none

theorem reach_inv {ls : List Label} {s : St} (h : run false init ls = some s) : Inv s :=
  run_inv inv_step init s ls inv_init h

/-- entries from `nObjs` on are untouched, so an added entry is a new, empty `cacheValue` -/
structure Alloc (s : St) : Prop where
  unused : ∀ o, s.nObjs ≤ o → s.objs o = {}
  cur : ∀ o, s.cur = some o → o < s.nObjs
  ths : ∀ t o, (s.ths t).pc.obj = some o → o < s.nObjs

theorem alloc_init : Alloc init := ⟨fun _ _ => rfl, fun _ => nofun, fun _ _ => nofun⟩

theorem Alloc.setTh (ha : Alloc s) (t : Nat) (th : Th) (hnew : ∀ o, th.pc.obj = some o → o < s.nObjs) :
    Alloc (s.setTh t th) := by
  refine ⟨ha.unused, ha.cur, fun t' o ho => ?_⟩
  by_cases hne : t' = t
  · subst hne; exact hnew o (by simpa using ho)
  · exact ha.ths t' o (by simpa [hne] using ho)

theorem Alloc.setObj (ha : Alloc s) {o : Nat} (ho : o < s.nObjs) (ob : Obj) : Alloc (s.setObj o ob) := by
  refine ⟨fun o' hle => ?_, ha.cur, ha.ths⟩
  have : o' ≠ o := Nat.ne_of_gt (Nat.lt_of_lt_of_le ho hle)
  simpa [this] using ha.unused o' hle

theorem Alloc.unmap (ha : Alloc s) : Alloc { s with cur := none } := ⟨ha.unused, fun _ => nofun, ha.ths⟩

theorem alloc_step (s s' : St) (l : Label) (ha : Alloc s) (h : step false s l = some s') : Alloc s' := by
  have keep : ∀ (t : Nat) (pc' : Pc), pc'.obj = (s.ths t).pc.obj → ∀ o, pc'.obj = some o → o < s.nObjs :=
    fun t pc' he o ho => ha.ths t o (he ▸ ho)
  revert h
  fun_cases step false s l <;> rintro ⟨⟩
  case case1 d => exact ⟨ha.unused, ha.cur, ha.ths⟩
  case case2 => exact ha.unmap
  -- call
  case case3 t _ e hc | case5 t _ _ _ _ e hc | case7 t _ e hc => exact ha.setTh t _ fun o ho => ha.cur o (hc.trans ho)
  case case4 t _ _ | case6 t _ _ _ _ _ | case8 t _ _ => exact ha.setTh t _ nofun
  case case10 t _ => -- add
    refine ⟨fun o ho => ha.unused o (Nat.le_of_succ_le ho), fun o ho => ?_, fun t' o ho => ?_⟩
    · cases ho; exact Nat.lt_succ_self _
    · by_cases hne : t' = t
      · subst hne; cases (show some s.nObjs = some o by simpa [Pc.obj] using ho); exact Nat.lt_succ_self _
      · exact Nat.lt_succ_of_lt (ha.ths t' o (by simpa [hne] using ho))
  case case12 t o hpc _ | case16 t o _ _ hpc _ | case22 t o _ hpc _ => -- snapshot; fastCheck, recheck when expired
    exact ha.setTh t _ (keep t _ (by rw [hpc]; rfl))
  case case15 t _ _ _ _ _ => exact ha.setTh t _ nofun   -- fastCheck, served
  case case18 t o _ hpc _ => -- acquire
    exact (ha.setTh t _ (keep t _ (by rw [hpc]; rfl))).setObj (ha.ths t o (by rw [hpc]; rfl)) _
  case case21 t o _ hpc _ | case24 t _ _ o hpc => -- recheck, served; fetchOk
    exact (ha.setTh t _ (by nofun)).setObj (ha.ths t o (by rw [hpc]; rfl)) _
  case case26 t o hpc => -- fetchErr
    exact ((ha.setTh t ⟨.failed, _⟩ nofun).setObj (ha.ths t o (by rw [hpc]; rfl)) _).unmap

end CacheLts
