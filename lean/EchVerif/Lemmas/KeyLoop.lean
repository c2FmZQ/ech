import EchVerif.ECH.Conn
/-! the ideal HPKE, one iteration of the key loop, and the loop: the result of the loop is the
    result of the first key, in list order, that does not say `continue` -/
open Wire TLS
namespace ECH

variable {H : Hpke} {st : St} {h : Hello} {ech : EchExt} {k : Key} {cfg : ConfigSpec}

theorem open_some {c : Ctx} {aad ct pt : Bytes} (ho : H.open c aad ct = some pt) :
    ∃ s ∈ H.seals, s.priv = c.priv ∧ s.kem = c.kem ∧ s.kdf = c.kdf ∧ s.aead = c.aead ∧
      s.info = c.info ∧ s.enc = c.enc ∧ s.seq = c.seq ∧ s.aad = aad ∧ s.ct = ct ∧ s.pt = pt := by
  obtain ⟨s, hf, hpt⟩ := Option.map_eq_some_iff.mp ho
  have hp := List.find?_some hf
  simp only [decide_eq_true_eq] at hp
  exact ⟨s, List.mem_of_find?_eq_some hf, hp.1, hp.2.1, hp.2.2.1, hp.2.2.2.1, hp.2.2.2.2.1,
    hp.2.2.2.2.2.1, hp.2.2.2.2.2.2.1, hp.2.2.2.2.2.2.2.1, hp.2.2.2.2.2.2.2.2, hpt⟩

theorem open_none_of_no_seal {c : Ctx} {aad ct : Bytes}
    (h : ∀ s ∈ H.seals, ¬ (s.priv = c.priv ∧ s.kem = c.kem ∧ s.kdf = c.kdf ∧ s.aead = c.aead ∧
      s.info = c.info ∧ s.enc = c.enc ∧ s.seq = c.seq ∧ s.aad = aad ∧ s.ct = ct)) :
    H.open c aad ct = none := by
  refine Option.eq_none_iff_forall_ne_some.mpr fun pt ho => ?_
  obtain ⟨s, hs, h1, h2, h3, h4, h5, h6, h7, h8, h9, _⟩ := open_some ho
  exact h s hs ⟨h1, h2, h3, h4, h5, h6, h7, h8, h9⟩

theorem candCtx_stored {c0 : Ctx} (hn : st.ctx = some c0) : candCtx H st ech k cfg = .ok c0 := by
  simp only [candCtx, hn]

/-- a fresh candidate context is exactly the one RFC 9180 SetupBaseR would build for this key,
    suite, info string "tls ech\0" ‖ config, and encapsulated key, at sequence number 0 -/
theorem candCtx_fresh {c : Ctx} (hn : st.ctx = none) (hc : candCtx H st ech k cfg = .ok c) :
    c = ⟨k.priv, cfg.kem, ech.kdf, ech.aead, "tls ech\x00".toUTF8.toList ++ k.config, ech.enc, 0⟩ ∧
    ech.enc.length > 0 ∧ H.privOk.contains (cfg.kem, k.priv) = true ∧
    H.setupOk.contains (k.priv, cfg.kem, ech.kdf, ech.aead, ech.enc) = true := by
  revert hc
  fun_cases candCtx H st ech k cfg
  all_goals intro hc
  all_goals cases hc
  case case1 hs => rw [hn] at hs; cases hs
  case case4 henc hpriv hsetup =>
    exact ⟨rfl, henc, Decidable.not_not.mp hpriv, Decidable.not_not.mp hsetup⟩

theorem candCtx_err {r : KeyTry} (hc : candCtx H st ech k cfg = .error r) :
    r = .next ∨ r = .fail .other ∨ r = .fail .illegal := by
  revert hc
  fun_cases candCtx H st ech k cfg
  all_goals intro hc
  all_goals cases hc
  case case2 => exact .inr (.inl rfl) -- the private key does not parse
  case case3 => exact .inl rfl -- SetupRecipient fails
  case case5 => exact .inr (.inr rfl) -- no encapsulated key

theorem tryKey_skip
    (hs : ∀ cfg, configSpec k.config = some cfg →
      (cfg.id ≠ ech.configId ∨ ¬ cfg.suites.any (fun s => s.kdf = ech.kdf ∧ s.aead = ech.aead)) ∨
      (st.ctx.isSome ∧ st.ctxConfig ≠ k.config)) :
    tryKey H st h ech k = .next := by
  fun_cases tryKey H st h ech k
  case case1 | case2 | case3 | case6 => rfl -- no config; id or suite differs; another config's context; nothing opens
  -- in every other branch the key has passed the tests that `hs` says it fails
  all_goals exact absurd (hs _ (by assumption)) (not_or.mpr ⟨by assumption, by assumption⟩)

theorem tryKey_opened {pt : Bytes} {c' : Ctx} {cfgb : Bytes} (ht : tryKey H st h ech k = .opened pt c' cfgb) :
    ∃ cfg c aad, configSpec k.config = some cfg ∧ cfg.id = ech.configId ∧
      cfg.suites.any (fun s => s.kdf = ech.kdf ∧ s.aead = ech.aead) = true ∧
      ¬ (st.ctx.isSome ∧ st.ctxConfig ≠ k.config) ∧
      candCtx H st ech k cfg = .ok c ∧ h.marshalAAD = .ok aad ∧
      H.open c aad ech.payload = some pt ∧ cfg.publicName = h.d.serverName ∧
      c' = { c with seq := c.seq + 1 } ∧ cfgb = k.config := by
  revert ht
  fun_cases tryKey H st h ech k
  all_goals intro ht
  case case4 hc => -- the result is `candCtx`'s, which is never `opened`
    rcases candCtx_err hc with e | e | e <;> rw [e] at ht <;> cases ht
  -- the last branch: config and its equation, the two tests passed (`hm`, `hs`), context and `candCtx`
  -- equation, aad and `marshalAAD` equation, plaintext and `open` equation `ho`, public name test `hn`
  case case8 cfg hcfg hm hs c hc aad ha _ ho hn =>
    cases ht
    rw [not_or, Decidable.not_not, Decidable.not_not] at hm
    exact ⟨cfg, c, aad, hcfg, hm.1, hm.2, hs, hc, ha, ho, Decidable.not_not.mp hn, rfl, rfl⟩
  all_goals cases ht

theorem keyLoop_cases (H : Hpke) (st : St) (h : Hello) (ech : EchExt) (ks : List Key) :
    (keyLoop H st h ech ks = .next ∧ ∀ k ∈ ks, tryKey H st h ech k = .next) ∨
    ∃ pre k post, ks = pre ++ k :: post ∧ (∀ k' ∈ pre, tryKey H st h ech k' = .next) ∧
      tryKey H st h ech k ≠ .next ∧ keyLoop H st h ech ks = tryKey H st h ech k := by
  induction ks with
  | nil => exact .inl ⟨rfl, nofun⟩
  | cons k ks ih =>
    by_cases hk : tryKey H st h ech k = .next
    · have hl : keyLoop H st h ech (k :: ks) = keyLoop H st h ech ks := by simp only [keyLoop, hk]
      rw [hl]
      rcases ih with ⟨h1, h2⟩ | ⟨pre, k', post, e1, e2, e3⟩
      · exact .inl ⟨h1, List.forall_mem_cons.mpr ⟨hk, h2⟩⟩
      · exact .inr ⟨k :: pre, k', post, by rw [e1, List.cons_append], List.forall_mem_cons.mpr ⟨hk, e2⟩, e3⟩
    · refine .inr ⟨[], k, ks, rfl, nofun, hk, ?_⟩
      simp only [keyLoop]

theorem keyLoop_next_iff {ks : List Key} :
    keyLoop H st h ech ks = .next ↔ ∀ k ∈ ks, tryKey H st h ech k = .next := by
  rcases keyLoop_cases H st h ech ks with ⟨h1, h2⟩ | ⟨pre, k, post, e, _, hne, hk⟩
  · exact ⟨fun _ => h2, fun _ => h1⟩
  · exact ⟨fun hn => absurd (hk ▸ hn) hne, fun hall => absurd (hall k (by simp [e])) hne⟩

theorem keyLoop_mem {ks : List Key} {r : KeyTry} (hk : keyLoop H st h ech ks = r) (hr : r ≠ .next) :
    ∃ k ∈ ks, tryKey H st h ech k = r := by
  rcases keyLoop_cases H st h ech ks with ⟨h1, _⟩ | ⟨pre, k, post, e, _, _, hk'⟩
  · exact absurd (h1 ▸ hk).symm hr
  · exact ⟨k, by simp [e], hk' ▸ hk⟩

theorem keyLoop_opened_ctx {ks : List Key} {pt : Bytes} {c : Ctx} {cfgb : Bytes}
    (hk : keyLoop H st h ech ks = .opened pt c cfgb) :
    (∀ c0, st.ctx = some c0 → c = { c0 with seq := c0.seq + 1 }) ∧ (st.ctx = none → c.seq = 1) := by
  obtain ⟨k, _, hto⟩ := keyLoop_mem hk nofun
  obtain ⟨cfg, c1, _, _, _, _, _, hcand, _, _, _, rfl, _⟩ := tryKey_opened hto
  refine ⟨fun c0 hctx => ?_, fun hn => ?_⟩
  · rw [candCtx_stored hctx] at hcand
    cases hcand
    rfl
  · rw [(candCtx_fresh hn hcand).1]

end ECH
