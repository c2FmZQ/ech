import EchVerif.ECH.Config
/-! The ECHConfig codec as a frame (version, 16-bit length) around the contents: `ConfigSpec.bytes` writes
    `contents` into it, `parseConfig` runs `parseContents` on what it holds. -/
open Wire
namespace ECH

def SuitesInRange (cs : List CipherSuite) : Prop := ∀ s ∈ cs, s.kdf < 65536 ∧ s.aead < 65536

theorem putSuites_length (cs : List CipherSuite) : (putSuites cs).length = 4 * cs.length := by
  induction cs with
  | nil => rfl
  | cons c cs ih => simp [putSuites, ih]; omega

/-- ECHConfigContents as `ConfigSpec.bytes` writes them -/
def ConfigSpec.contents (c : ConfigSpec) : Bytes :=
  u8 c.id ++ u16 c.kem ++ (u16 c.publicKey.length ++ c.publicKey) ++
    (u16 (putSuites c.suites).length ++ putSuites c.suites) ++
    u8 (min (c.publicName.length + 16) 255) ++ (u8 c.publicName.length ++ c.publicName) ++ u16 0

/-- what `parseConfig` does with the bytes inside the frame -/
def parseContents (ver : Nat) (ss : Bytes) : Option ConfigSpec :=
  match readU8 ss with
  | none => none
  | some (id, ss1) =>
    match readU16 ss1 with
    | none => none
    | some (kem, ss2) =>
      match readLP16 ss2 with
      | none => none
      | some (pk, ss3) =>
        match readLP16 ss3 with
        | none => none
        | some (cs, ss4) =>
          match parseSuites cs with
          | none => none
          | some suites =>
            match readU8 ss4 with
            | none => none
            | some (mnl, ss5) =>
              match readLP8 ss5 with
              | none => none
              | some (name, _exts) => some ⟨ver, id, kem, pk, suites, mnl, name⟩

theorem parseConfig_eq (s : Bytes) : parseConfig s =
    (readU16 s).bind fun p => if p.1 ≠ 0xfe0d then none else
      (readLP16 p.2).bind fun q => (parseContents p.1 q.1).map (·, q.2) := by
  unfold parseConfig parseContents
  rcases readU16 s with _ | ⟨ver, s1⟩; · rfl
  dsimp only [Option.bind_some]
  split; · rfl
  rcases readLP16 s1 with _ | ⟨ss, rest⟩; · rfl
  dsimp only [Option.bind_some]
  rcases readU8 ss with _ | ⟨id, ss1⟩; · rfl
  dsimp only
  rcases readU16 ss1 with _ | ⟨kem, ss2⟩; · rfl
  dsimp only
  rcases readLP16 ss2 with _ | ⟨pk, ss3⟩; · rfl
  dsimp only
  rcases readLP16 ss3 with _ | ⟨cs, ss4⟩; · rfl
  dsimp only
  rcases parseSuites cs with _ | suites; · rfl
  dsimp only
  rcases readU8 ss4 with _ | ⟨mnl, ss5⟩; · rfl
  dsimp only
  rcases readLP8 ss5 with _ | ⟨name, _⟩ <;> rfl

theorem parseConfig_frame {ver : Nat} {ss : Bytes} (hv : ver < 65536) (hs : ss.length < 65536) (rest : Bytes) :
    parseConfig (u16 ver ++ (u16 ss.length ++ ss) ++ rest) =
      if ver ≠ 0xfe0d then none else (parseContents ver ss).map (·, rest) := by
  simp only [parseConfig_eq, List.append_assoc, readU16_u16 hv, Option.bind_some, readLP16_append hs]

theorem parseConfig_inv {b rest : Bytes} {c : ConfigSpec} (h : parseConfig b = some (c, rest)) :
    ∃ ss, b = u16 0xfe0d ++ (u16 ss.length ++ ss) ++ rest ∧ ss.length < 65536 ∧
      parseContents 0xfe0d ss = some c := by
  rw [parseConfig_eq] at h
  obtain ⟨⟨ver, s1⟩, h1, h⟩ := Option.bind_eq_some_iff.mp h
  split at h; · cases h
  rename_i hv
  obtain ⟨⟨ss, r⟩, h2, h⟩ := Option.bind_eq_some_iff.mp h
  obtain ⟨c', h3, h4⟩ := Option.map_eq_some_iff.mp h
  cases h4
  obtain ⟨rfl, _⟩ := readU16_inv h1
  obtain ⟨rfl, hl⟩ := readLP16_inv h2
  obtain rfl : ver = 0xfe0d := by simpa using hv
  exact ⟨ss, by simp only [List.append_assoc], hl, h3⟩

theorem bytes_of (c : ConfigSpec) (h1 : 1 ≤ c.publicName.length) (h2 : c.publicName.length ≤ 255)
    (h3 : c.publicKey.length < 65536) (h4 : (putSuites c.suites).length < 65536)
    (h5 : c.contents.length < 65536) :
    c.bytes = some (u16 c.version ++ (u16 c.contents.length ++ c.contents)) := by
  unfold ConfigSpec.contents at h5 ⊢
  unfold ConfigSpec.bytes lp16 lp8
  rw [if_neg (by omega), if_pos h3, if_pos h4, if_pos (by omega)]
  dsimp only
  rw [if_pos h5]

theorem bytes_ok {c : ConfigSpec} {e : Bytes} (h : c.bytes = some e) :
    1 ≤ c.publicName.length ∧ c.publicName.length ≤ 255 ∧ c.publicKey.length < 65536 ∧
    (putSuites c.suites).length < 65536 ∧ c.contents.length < 65536 ∧
    e = u16 c.version ++ (u16 c.contents.length ++ c.contents) := by
  unfold ConfigSpec.bytes at h
  split at h; · cases h
  rename_i hn
  split at h
  · rename_i pk cs nm hpk hcs hnm
    obtain ⟨h3, rfl⟩ := lp16_ok hpk
    obtain ⟨h4, rfl⟩ := lp16_ok hcs
    obtain ⟨_, rfl⟩ := lp8_ok hnm
    split at h
    · rename_i body hb
      obtain ⟨h5, rfl⟩ := lp16_ok hb
      exact ⟨by omega, by omega, h3, h4, h5, (Option.some.inj h).symm⟩
    · cases h
  · cases h

theorem encodeAll_cons {c : ConfigSpec} {cs : List ConfigSpec} {encs : List Bytes} :
    encodeAll (c :: cs) = some encs ↔
      ∃ e es, c.bytes = some e ∧ encodeAll cs = some es ∧ encs = e :: es := by
  rw [encodeAll]
  cases c.bytes <;> cases encodeAll cs <;> simp [eq_comm]

theorem contents_length (c : ConfigSpec) :
    c.contents.length = 11 + c.publicKey.length + 4 * c.suites.length + c.publicName.length := by
  simp only [ConfigSpec.contents, List.length_append, u8_length, u16_length, putSuites_length]
  omega

theorem parseSuitesF_putSuites (cs : List CipherSuite) (h : SuitesInRange cs) :
    ∀ fuel, (putSuites cs).length ≤ fuel → parseSuitesF fuel (putSuites cs) = some cs := by
  induction cs with
  | nil => intro fuel _; cases fuel <;> simp [putSuites, parseSuitesF]
  | cons c cs ih =>
    intro fuel hf
    have hc := h c (by simp)
    have hcs : SuitesInRange cs := fun s hs => h s (by simp [hs])
    cases fuel with
    | zero => simp [putSuites, u16] at hf
    | succ n =>
      have hl : (putSuites cs).length ≤ n := by simp [putSuites, u16] at hf; omega
      have hne : putSuites (c :: cs) ≠ [] := by simp [putSuites, u16]
      simp only [parseSuitesF, hne, if_false]
      simp only [putSuites, List.append_assoc]
      simp only [readU16_u16 hc.1, readU16_u16 hc.2, ih hcs n hl]

theorem parseSuites_putSuites (cs : List CipherSuite) (h : SuitesInRange cs) :
    parseSuites (putSuites cs) = some cs := parseSuitesF_putSuites cs h _ (Nat.le_refl _)

theorem parseSuitesF_inv (fuel : Nat) (b : Bytes) (cs : List CipherSuite)
    (h : parseSuitesF fuel b = some cs) : putSuites cs = b ∧ SuitesInRange cs := by
  revert cs
  fun_induction parseSuitesF fuel b <;> intro cs h <;> cases h
  case case7 k r1 h1 a r2 h2 cs' hrec ih =>
    obtain ⟨rfl, k1⟩ := readU16_inv h1
    obtain ⟨rfl, k2⟩ := readU16_inv h2
    obtain ⟨rfl, k3⟩ := ih cs' hrec
    exact ⟨by simp [putSuites], List.forall_mem_cons.mpr ⟨⟨k1, k2⟩, k3⟩⟩
  -- the branches that return the empty list: the input is empty
  all_goals exact ⟨by simp_all [putSuites], nofun⟩

theorem parseContents_contents (c : ConfigSpec) {ver : Nat} (hid : c.id < 256) (hkem : c.kem < 65536)
    (hsu : SuitesInRange c.suites) (hpk : c.publicKey.length < 65536)
    (hcs : (putSuites c.suites).length < 65536) (hn : c.publicName.length ≤ 255) :
    parseContents ver c.contents =
      some { c with version := ver, maxNameLen := min (c.publicName.length + 16) 255 } := by
  have hm : min (c.publicName.length + 16) 255 < 256 := by omega
  simp only [parseContents, ConfigSpec.contents, List.append_assoc, readU8_u8 hid, readU16_u16 hkem]
  rw [readLP16_append hpk]
  dsimp only
  rw [readLP16_append hcs]
  dsimp only
  rw [parseSuites_putSuites _ hsu]
  dsimp only
  rw [readU8_u8 hm]
  dsimp only
  rw [readLP8_append (by omega)]

theorem isECHConfig_of {body : Bytes} (hl : body.length < 65536) (hc : Spec.contentsOk body = true) :
    Spec.isECHConfig (u16 0xfe0d ++ (u16 body.length ++ body)) = true := by
  have hfe : UInt8.ofNat (0xfe0d / 256) = 0xfe := by decide
  have h0d : UInt8.ofNat 0xfe0d = 0x0d := by decide
  have hlen : (UInt8.ofNat (body.length / 256)).toNat * 256 + (UInt8.ofNat body.length).toNat =
      body.length := by
    simpa [u16, readU16] using readU16_u16 hl []
  simp only [u16, List.cons_append, List.nil_append, hfe, h0d, Spec.isECHConfig, hlen, hc]
  simp

theorem contentsOk_contents (c : ConfigSpec) (hpk : c.publicKey.length < 65536)
    (hcs : (putSuites c.suites).length < 65536) (hn : c.publicName.length ≤ 255)
    (h1 : 1 ≤ c.publicKey.length) (h2 : 1 ≤ c.suites.length) (h3 : 1 ≤ c.publicName.length) :
    Spec.contentsOk c.contents = true := by
  have hsl := putSuites_length c.suites
  have h0 : readLP16 (u16 0) = some ([], []) := by decide
  -- the recogniser reads one field off the front at a time; so does each `rw` below
  simp only [ConfigSpec.contents, List.append_assoc]
  rw [show ∀ r, u8 c.id ++ (u16 c.kem ++ r) = UInt8.ofNat c.id :: UInt8.ofNat (c.kem / 256) :: UInt8.ofNat c.kem :: r
    from fun _ => rfl]
  rw [Spec.contentsOk, readLP16_append hpk]
  dsimp only
  rw [if_neg (by omega), readLP16_append hcs]
  dsimp only
  rw [if_neg (by rw [hsl, Nat.mul_mod_right]; omega)]
  rw [show ∀ m r, u8 m ++ r = UInt8.ofNat m :: r from fun _ _ => rfl]
  dsimp only
  rw [readLP8_append (by omega)]
  dsimp only
  rw [if_neg (by omega), h0]
  rfl

end ECH
