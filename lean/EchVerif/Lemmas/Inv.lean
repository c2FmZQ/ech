import EchVerif.ECH.Ops
import EchVerif.Lemmas.Conn
/-! what Read and Write do to the Conn state, and the Conn invariant: established by NewConn,
    preserved by Read and Write, hence true after every run -/
open Wire TLS
namespace ECH

variable {st : St}

theorem inspectWrite_ok {st' : St} {record : Bytes} (h : inspectWrite st record = .ok st') :
    st' = st ∨ st' = { st with writePT := true } ∨
    (st' = { st with writePT := true, retry := st.retry + 1 } ∧ record.head? = some 22 ∧
      msgTypeOf record = some 2 ∧ parseServerHello (record.drop 5) = .ok true) := by
  revert h
  fun_cases inspectWrite st record
  all_goals intro h
  all_goals cases h
  case case1 => exact .inr (.inl rfl) -- application data
  case case3 _ hc hp => exact .inr (.inr ⟨rfl, hc.1, hc.2, hp⟩) -- HelloRetryRequest
  all_goals exact .inl rfl -- another ServerHello, or another record

/-- a predicate on states that survives everything the write loop can do: changing the buffer, going
    into passthrough, and counting a HelloRetryRequest record -/
structure WriteStable (P : St → Prop) : Prop where
  buf : ∀ st b, P st → P { st with writeBuf := b }
  pt : ∀ st, P st → P { st with writePT := true }
  hrr : ∀ st record, record.head? = some 22 → msgTypeOf record = some 2 →
    parseServerHello (record.drop 5) = .ok true → P st → P { st with writePT := true, retry := st.retry + 1 }

theorem writeLoop_stable {P : St → Prop} (hP : WriteStable P) (fuel blen : Nat) (t : Tr) (h : P st) :
    P (writeLoop fuel blen st t).st := by
  have hins : ∀ {st st1 r}, inspectWrite st r = .ok st1 → P st → P st1 := by
    intro st st1 r hi h
    rcases inspectWrite_ok hi with e | e | ⟨e, r1, r2, r3⟩ <;> rw [e]
    · exact h
    · exact hP.pt st h
    · exact hP.hrr st r r1 r2 r3 h
  revert h
  fun_induction writeLoop fuel blen st t
  all_goals intro h
  -- a record is inspected and written: the transport then fails, or the loop goes on
  case case6 hi _ _ _ _ => exact hP.buf _ _ (hins hi h)
  case case7 hi _ _ _ ih => exact ih (hP.buf _ _ (hins hi h))
  all_goals exact h

theorem connWrite_stable {P : St → Prop} (hP : WriteStable P) (t : Tr) (b : Bytes) (h : P st) :
    P (connWrite st t b).st := by
  unfold connWrite
  split
  · exact h
  · exact writeLoop_stable hP _ _ _ (hP.buf st _ h)

theorem connWrite_frame (st : St) (t : Tr) (b : Bytes) :
    ∃ wb pt r, (connWrite st t b).st = { st with writeBuf := wb, writePT := pt, retry := r } ∧ st.retry ≤ r :=
  connWrite_stable (P := fun s => ∃ wb pt r, s = { st with writeBuf := wb, writePT := pt, retry := r } ∧ st.retry ≤ r)
    ⟨fun _ b ⟨_, pt, r, e, h⟩ => ⟨b, pt, r, by rw [e], h⟩,
     fun _ ⟨wb, _, r, e, h⟩ => ⟨wb, true, r, by rw [e], h⟩,
     fun _ _ _ _ _ ⟨wb, _, r, e, h⟩ => ⟨wb, true, r + 1, by rw [e], Nat.le_succ_of_le h⟩⟩
    t b ⟨_, _, _, rfl, Nat.le_refl _⟩

theorem inv_write (t : Tr) (b : Bytes) (hi : Inv st) : Inv (connWrite st t b).st := by
  cases hn : st.inner with
  | none => -- in passthrough with an empty buffer: Write changes nothing
    obtain ⟨_, h2, _, h4⟩ := hi.no_inner_pt hn
    have : connWrite st t b = ⟨(t.write b).1, (t.write b).2.1.map .io, st, (t.write b).2.2⟩ := by
      rw [connWrite, if_pos ⟨h2, h4⟩]
    rw [this]
    exact hi
  | some i =>
    have hs : st.inner.isSome := by rw [hn]; rfl
    -- with an inner hello the third clause of `Inv` is void, and `writePT := true` gives the first
    have hno : ∀ {s : St} {p : Prop}, s.inner.isSome → s.inner = none → p :=
      fun hs hn => by rw [hn] at hs; cases hs
    refine (connWrite_stable (P := fun s => Inv s ∧ s.inner.isSome) ⟨?_, ?_, ?_⟩ t b ⟨hi, hs⟩).1
    · exact fun s _ ⟨h, hs⟩ => ⟨⟨h.retry_pt, h.inner_outer, hno hs, h.seq⟩, hs⟩
    · exact fun s ⟨h, hs⟩ => ⟨⟨fun _ => ⟨rfl, hs⟩, h.inner_outer, hno hs, h.seq⟩, hs⟩
    · exact fun s _ _ _ _ ⟨h, hs⟩ => ⟨⟨fun _ => ⟨rfl, hs⟩, h.inner_outer, hno hs, h.seq⟩, hs⟩

theorem deliver_st (n : Nat) (st : St) (t : Tr) :
    (deliver n st t).st = { st with readBuf := st.readBuf.drop n } := by
  unfold deliver
  split
  · rfl
  · -- the buffer is empty and the state is returned as it is
    rename_i hb
    cases st
    simp only [ne_eq, Decidable.not_not] at hb
    split <;> simp [hb]

/-- consumed as `⟨e, he, h⟩ | ⟨o, i, c, cfg, buf, oe, h, hm, hh, ech, pt, hk⟩`: `handle` fails (alert, error stored) |
    the hello is replaced by the marshalled inner hello `buf`, or by the error `oe` of marshalling it -/
theorem readRetry_cases (H : Hpke) (n : Nat) (st : St) (t : Tr) (r : Bytes) :
    (∃ e, handle H { st with readPT := true } r true = .error e ∧
      readRetry H n st t r = ⟨[], some e, { st with readPT := true, readErr := some e }, alertRaw e t⟩) ∨
    (∃ (o i : Hello) (c : Ctx) (cfg buf : Bytes) (oe : Option Err),
      readRetry H n st t r =
        deliver n { st with readPT := true, ctx := some c, ctxConfig := cfg, readBuf := buf, readErr := oe } t ∧
      ((i.marshal = .ok buf ∧ oe = st.readErr) ∨ (∃ e, i.marshal = .error e ∧ oe = some e ∧ buf = [])) ∧
      handle H { st with readPT := true } r true =
        .ok (o, some i, { st with readPT := true, ctx := some c, ctxConfig := cfg }) ∧
      ∃ ech pt, keyLoop H { st with readPT := true } o ech st.keys = .opened pt c cfg) := by
  unfold readRetry
  split
  · rename_i e he
    exact .inl ⟨e, he, rfl⟩
  · rename_i o inner st2 hh
    obtain ⟨i, _, pt, c, cfg, ech, rfl, rfl, _, hk, _⟩ := handle_retry_ok hh
    refine .inr ⟨o, i, c, cfg, ?_⟩
    dsimp only
    split
    · rename_i e hm
      exact ⟨[], some e, rfl, .inr ⟨e, hm, rfl, rfl⟩, hh, ech, pt, hk⟩
    · rename_i buf hm
      exact ⟨buf, st.readErr, rfl, .inl ⟨hm, rfl⟩, hh, ech, pt, hk⟩

/-- consumed as `h | ⟨hpt, hbuf, herr, r, oe, t1, hrr, ⟨hoe, hretry, h⟩ | ⟨pt, h⟩⟩`:
    no record is read (`deliver` alone) | a retried hello | a record (read into the empty buffer, with the
    transport's error if any) -/
theorem connRead_cases (H : Hpke) (st : St) (t : Tr) (n : Nat) :
    connRead H st t n = deliver n st t ∨
    (st.readPT = false ∧ st.readBuf = [] ∧ st.readErr = none ∧ ∃ r oe t1, readRecord t = (r, oe, t1) ∧
      ((oe = none ∧ st.retry = 1 ∧ connRead H st t n = readRetry H n st t1 r) ∨
       ∃ pt, connRead H st t n = deliver n { st with readBuf := r, readErr := oe, readPT := pt } t1)) := by
  have hfresh : (¬ st.readPT = true ∧ st.readBuf = [] ∧ st.readErr.isNone = true) →
      st.readPT = false ∧ st.readBuf = [] ∧ st.readErr = none :=
    fun ⟨h1, h2, h3⟩ => ⟨Bool.eq_false_iff.mpr h1, h2, Option.isNone_iff_eq_none.mp h3⟩
  fun_cases connRead H st t n
  case case1 hc r e t1 hrr => -- the record comes with an error
    exact .inr ⟨(hfresh hc).1, (hfresh hc).2.1, (hfresh hc).2.2, r, some e, t1, hrr, .inr ⟨st.readPT, rfl⟩⟩
  case case2 hc r t1 hrr _ => -- application data
    obtain ⟨h1, h2, h3⟩ := hfresh hc
    refine .inr ⟨h1, h2, h3, r, none, t1, hrr, .inr ⟨true, ?_⟩⟩
    rw [← h3]
  case case3 hc r t1 hrr _ hr => -- a retried hello
    simp only [isRetryHello, Bool.decide_and, Bool.and_eq_true, decide_eq_true_eq] at hr
    exact .inr ⟨(hfresh hc).1, (hfresh hc).2.1, (hfresh hc).2.2, r, none, t1, hrr, .inl ⟨rfl, hr.2.2.2, rfl⟩⟩
  case case4 hc r t1 hrr _ _ => -- any other record
    obtain ⟨h1, h2, h3⟩ := hfresh hc
    refine .inr ⟨h1, h2, h3, r, none, t1, hrr, .inr ⟨false, ?_⟩⟩
    rw [← h3, ← h1]
  case case5 => exact .inl rfl

theorem Inv.read_side (h : Inv st) (b : Bytes) (e : Option Err) (cfg : Bytes) {pt : Bool}
    (hpt : st.readPT = true → pt = true) :
    Inv { st with readBuf := b, readErr := e, ctxConfig := cfg, readPT := pt } :=
  ⟨h.retry_pt, h.inner_outer, fun hn => ⟨hpt (h.no_inner_pt hn).1, (h.no_inner_pt hn).2⟩,
    fun c hc => (h.seq c hc).imp id (fun ⟨h2, h3⟩ => ⟨h2, hpt h3⟩)⟩

theorem inv_deliver {n : Nat} {t : Tr} (h : Inv st) : Inv (deliver n st t).st := by
  rw [deliver_st]
  exact h.read_side _ st.readErr st.ctxConfig id

theorem inv_read (H : Hpke) (t : Tr) (n : Nat) (hi : Inv st) : Inv (connRead H st t n).st := by
  rcases connRead_cases H st t n with h | ⟨hpt, _, _, r, oe, t1, _, ⟨_, hr, h⟩ | ⟨pt, h⟩⟩ <;> rw [h]
  · exact inv_deliver hi -- no record is read
  · -- a retried hello: `retry = 1`, so there is an inner hello and a stored context
    have hin := (hi.retry_pt (Nat.le_of_eq hr.symm)).2
    rcases readRetry_cases H n st t1 r with ⟨e, _, h⟩ | ⟨o, i, c, cfg, buf, oe, h, _, _, ech, pt, hk⟩ <;> rw [h]
    · exact hi.read_side st.readBuf (some e) st.ctxConfig (fun _ => rfl) -- `handle` fails
    · apply inv_deliver -- the hello is replaced
      obtain ⟨c0, hc0⟩ := Option.isSome_iff_exists.mp (hi.inner_outer hin).2
      have hc := (keyLoop_opened_ctx hk).1 c0 hc0
      -- the read side was inspecting, so the stored context is at sequence number 1
      have hseq : c0.seq = 1 := (hi.seq c0 hc0).resolve_right (fun ⟨_, h⟩ => by rw [hpt] at h; cases h)
      refine ⟨hi.retry_pt, fun hs => ⟨(hi.inner_outer hs).1, rfl⟩,
        fun hn => by simp [show st.inner = none from hn] at hin, ?_⟩
      intro c' hc'
      cases hc'
      exact .inr ⟨by simp [hc, hseq], rfl⟩
  · exact inv_deliver (hi.read_side r oe st.ctxConfig (fun h => by rw [hpt] at h; cases h)) -- a record

theorem inv_newConn {H : Hpke} {keys : List Key} {t : Tr} (hok : (newConn H keys t).err = none) :
    Inv (newConn H keys t).st := by
  obtain ⟨_, _, _, ⟨_, _, hr, _⟩ | ⟨_, _, _, _, ⟨hr, _⟩ | ⟨_, c, _, hr, _, ech, _, hech, hk, _⟩⟩⟩ :=
    newConn_cases H keys t <;> rw [hr] at hok ⊢
  · cases hok -- abort
  · -- passthrough
    exact ⟨fun h => by simp at h, fun h => by simp at h, fun _ => ⟨rfl, rfl, rfl, rfl⟩, fun _ h => by simp at h⟩
  · -- accepted
    refine ⟨fun h => by simp at h, fun _ => by simp [hech], fun h => by simp at h, ?_⟩
    intro c' hc'
    cases hc'
    exact .inl ((keyLoop_opened_ctx hk).2 rfl)

theorem deliver_safe (n : Nat) (t : Tr) (h : st.readErr ≠ some .panic) :
    (deliver n st t).err ≠ some .panic ∧ (deliver n st t).st.readErr ≠ some .panic := by
  refine ⟨?_, by rw [deliver_st]; exact h⟩
  fun_cases deliver n st t
  case case1 => dsimp only; split <;> simp [h] -- the stored error, or none yet
  case case2 e he => exact he ▸ h -- the stored error
  case case3 e _ _ => cases e <;> simp -- the transport's

theorem runOps_induct (H : Hpke) {P : Sys → Prop} {Q : Obs → Prop}
    (hstep : ∀ s op, P s → P (stepOp H s op).1 ∧ Q (stepOp H s op).2) (ops : List Op) (s : Sys) (hs : P s) :
    P (runOps H s ops).1 ∧ ∀ o ∈ (runOps H s ops).2, Q o := by
  induction ops generalizing s with
  | nil => exact ⟨hs, fun _ h => (List.not_mem_nil h).elim⟩
  | cons op ops ih =>
    obtain ⟨h1, h2⟩ := hstep s op hs
    exact ⟨(ih _ h1).1, List.forall_mem_cons.mpr ⟨h2, (ih _ h1).2⟩⟩

end ECH
