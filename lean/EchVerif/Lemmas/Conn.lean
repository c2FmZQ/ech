import EchVerif.Lemmas.KeyLoop
import EchVerif.Lemmas.Transport
/-! the handshake path read backwards: what `newConn` and the functions under it have done when they
    succeed -/
open Wire TLS
namespace ECH

variable {H : Hpke} {st st' : St} {outer : Hello} {i : Option Hello}

theorem decodeInner_ok {inner : Hello} {pt : Bytes} (h : decodeInner outer pt = .ok inner) :
    ∃ h0 newExt d, pt.length < 16777216 ∧ parseClientHello (u8 1 ++ (u24 pt.length ++ pt)) = .ok h0 ∧
      (h0.d.ech.map (·.typ)) = some 1 ∧ expandExts outer.exts h0.exts false = .ok newExt ∧
      parseExtensions newExt = .ok d ∧ d.tls13 = true ∧
      inner = { h0 with sessionId := outer.sessionId, exts := newExt, d := d } := by
  revert h
  fun_cases decodeInner outer pt
  all_goals intro h
  all_goals cases h
  case case7 m hm h0 hp hty newExt hx d hd htls => -- the success
    obtain ⟨hl, rfl⟩ := lp24_ok hm
    exact ⟨h0, newExt, d, hl, hp, Decidable.not_not.mp hty, hx, hd, Decidable.not_not.mp htls, rfl⟩

/-- what a successful `process` has done: nothing, or opened the payload with the key loop, decoded the
    inner hello and stored the context that opened it -/
def Processed (H : Hpke) (st : St) (h : Hello) (i : Option Hello) (st' : St) : Prop :=
  (i = none ∧ st' = st) ∨
  ∃ inner pt c cfg ech, i = some inner ∧ st' = { st with ctx := some c, ctxConfig := cfg } ∧
    h.d.ech = some ech ∧ keyLoop H st h ech st.keys = .opened pt c cfg ∧ decodeInner h pt = .ok inner

theorem process_ok {h : Hello} {r : Bool} (hp : process H st h r = .ok (i, st')) : Processed H st h i st' := by
  have hc : ∃ r, processCore H st h r = .ok (i, st') := by
    revert hp
    fun_cases process H st h r
    all_goals intro hp
    · cases hp -- a retried hello that fails `retryPre`
    · exact ⟨_, hp⟩
    · exact ⟨_, hp⟩
  obtain ⟨r, hp⟩ := hc
  revert hp
  -- the branches of `processCore`: 1 no ECH extension, 2 no TLS 1.3 or no keys, 3 the key loop fails,
  -- 4, 5 no key opens (retry, first hello), 6, 7 a key opens and `decodeInner` fails, succeeds
  fun_cases processCore H st h r
  all_goals intro hp
  all_goals cases hp
  case case7 ech hech _ pt c cfg hk inner hd => exact .inr ⟨inner, pt, c, cfg, ech, rfl, rfl, hech, hk, hd⟩
  all_goals exact .inl ⟨rfl, rfl⟩ -- no ECH extension, no TLS 1.3 or no keys, or no key opens

theorem handle_ok {record : Bytes} {r : Bool} (hh : handle H st record r = .ok (outer, i, st')) :
    parseClientHello (record.drop 5) = .ok outer ∧ outer.d.hasEOE = false ∧
    ¬ (¬ st.keys.isEmpty ∧ (outer.d.ech.map (·.typ)) = some 1) ∧
    Processed H st outer i st' ∧ (r = true → retryCheck st i = .ok ()) := by
  revert hh
  -- the branches of `handle`: 1 the hello does not parse, 2 it has the marker extension, 3 inner type with keys,
  -- 4 `process` fails, 5 `retryCheck` fails, 6, 7 the two successes: a retried hello, a first hello
  fun_cases handle H st record r
  all_goals intro hh
  all_goals cases hh
  case case6 _ hp heoe hty hrc hproc =>
    exact ⟨hp, Bool.eq_false_iff.mpr heoe, hty, process_ok hproc, fun _ => hrc⟩
  case case7 hr hp heoe hty hproc =>
    exact ⟨hp, Bool.eq_false_iff.mpr heoe, hty, process_ok hproc, fun h => absurd h hr⟩

/-- a retried hello never succeeds without an inner hello: the `nil` branch of `readRetry` is dead -/
theorem handle_retry_ok {record : Bytes} (hh : handle H st record true = .ok (outer, i, st')) :
    ∃ inner ci pt c cfg ech, i = some inner ∧ st' = { st with ctx := some c, ctxConfig := cfg } ∧
      outer.d.ech = some ech ∧ keyLoop H st outer ech st.keys = .opened pt c cfg ∧
      decodeInner outer pt = .ok inner ∧ st.inner = some ci ∧
      ci.d.serverName = inner.d.serverName ∧ ci.d.alpn = inner.d.alpn := by
  obtain ⟨_, _, _, hproc, hrc⟩ := handle_ok hh
  have hrc := hrc rfl
  rcases hproc with ⟨rfl, _⟩ | ⟨inner, pt, c, cfg, ech, rfl, e, hech, hk, hd⟩
  · cases hrc -- `retryCheck` refuses a hello without inner hello
  · cases hci : st.inner with
    | none => simp [retryCheck, hci] at hrc -- the `c.inner` nil dereference
    | some ci =>
      simp only [retryCheck, hci] at hrc
      split at hrc
      · cases hrc
      · rename_i hcond
        rw [not_or, not_or, Decidable.not_not, Decidable.not_not] at hcond
        exact ⟨_, ci, pt, c, cfg, ech, rfl, hci ▸ e, hech, hk, hd, rfl, hcond.2.1, hcond.2.2⟩

theorem newConn_ok {H : Hpke} {keys : List Key} {t : Tr} (hok : (newConn H keys t).err = none) :
    ∃ record t1 outer inner st1 buf, readRecord t = (record, none, t1) ∧ record.head? = some 22 ∧
      handle H { keys := keys } record false = .ok (outer, inner, st1) ∧
      firstMarshal outer inner = .ok buf ∧
      newConn H keys t = ⟨none, { afterHello st1 outer inner with readBuf := buf }, t1⟩ := by
  revert hok
  fun_cases newConn H keys t
  all_goals intro hok
  case case5 record t1 hrr h22 outer inner st1 hh buf hm =>
    exact ⟨record, t1, outer, inner, st1, buf, hrr, Decidable.not_not.mp h22, hh, hm, rfl⟩
  all_goals cases hok -- the four aborts

/-- The three outcomes of NewConn (abort, passthrough, accepted), each with the whole result; `t1` is
    the transport as reading the first record left it. -/
theorem newConn_cases (H : Hpke) (keys : List Key) (t : Tr) :
    ∃ record t1, t.Reads record t1 ∧
    ((∃ e st, newConn H keys t = failNew e st t1 ∧ st.readBuf = []) ∨
     (readRecord t = (record, none, t1) ∧ ∃ outer buf, parseClientHello (record.drop 5) = .ok outer ∧
      ((newConn H keys t =
          ⟨none, { keys := keys, outer := some outer, readBuf := buf, readPT := true, writePT := true }, t1⟩ ∧
        outer.marshal = .ok buf) ∨
       ∃ inner c cfg,
        newConn H keys t =
          ⟨none, { keys := keys, outer := some outer, inner := some inner, ctx := some c, ctxConfig := cfg,
                   readBuf := buf }, t1⟩ ∧
        inner.marshal = .ok buf ∧
        ∃ ech pt, outer.d.ech = some ech ∧ keyLoop H { keys := keys } outer ech keys = .opened pt c cfg ∧
          decodeInner outer pt = .ok inner))) := by
  fun_cases newConn H keys t
  -- the four aborts: reading the record, its type, `handle`, marshalling
  case case1 hrr => exact ⟨_, _, readRecord_reads hrr, .inl ⟨_, _, rfl, rfl⟩⟩
  case case2 hrr _ => exact ⟨_, _, readRecord_reads hrr, .inl ⟨_, _, rfl, rfl⟩⟩
  case case3 hrr _ _ _ => exact ⟨_, _, readRecord_reads hrr, .inl ⟨_, _, rfl, rfl⟩⟩
  case case4 hrr _ outer inner st1 hh _ _ => -- `hh`: `handle … = .ok (outer, inner, st1)`
    refine ⟨_, _, readRecord_reads hrr, .inl ⟨_, _, rfl, ?_⟩⟩
    -- `(afterHello st1 outer inner).readBuf = []`: `handle` has left the buffer of `{ keys := keys }` alone
    obtain ⟨_, _, _, ⟨_, rfl⟩ | ⟨_, _, _, _, _, _, rfl, _⟩, _⟩ := handle_ok hh <;> rfl
  case case5 hrr _ outer inner st1 hh buf hm => -- and `hm`: `firstMarshal outer inner = .ok buf`
    refine ⟨_, _, readRecord_reads hrr, .inr ⟨hrr, outer, buf, ?_⟩⟩
    obtain ⟨hpo, _, _, ⟨rfl, rfl⟩ | ⟨i, pt, c, cfg, ech, rfl, rfl, hech, hk, hd⟩, _⟩ := handle_ok hh
    · exact ⟨hpo, .inl ⟨rfl, hm⟩⟩
    · exact ⟨hpo, .inr ⟨i, c, cfg, rfl, hm, ech, pt, hech, hk, hd⟩⟩

end ECH
