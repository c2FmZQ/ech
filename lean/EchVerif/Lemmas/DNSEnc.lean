import EchVerif.Lemmas.DNS
/-! The encoder of `DNS/Message.lean`, and the decoder reading back what it writes. -/
open Wire
namespace DNS

theorem low_digit {n p w x : Nat} (h : n = p * w + x) (hx : x < w) : n % w = x ∧ n / w = p := by
  subst h
  exact ⟨Nat.mul_add_mod_of_lt hx,
    by rw [Nat.add_comm, Nat.add_mul_div_right _ _ (Nat.zero_lt_of_lt hx), Nat.div_eq_of_lt hx, Nat.zero_add]⟩

theorem next_digit {n s p w x : Nat} (h : n / s = p * w + x) (hx : x < w) : n / s % w = x ∧ n / (s * w) = p := by
  rw [← Nat.div_div_eq_div_mul]
  exact low_digit h hx

theorem flagsWord_fields (m : EMessage) :
    flagsWord m / 32768 = m.qr % 2 ∧ flagsWord m / 2048 % 16 = m.opcode % 16 ∧ flagsWord m / 1024 % 2 = m.aa % 2 ∧
    flagsWord m / 512 % 2 = m.tc % 2 ∧ flagsWord m / 256 % 2 = m.rd % 2 ∧ flagsWord m / 128 % 2 = m.ra % 2 ∧
    flagsWord m % 16 = m.rcode % 16 ∧ flagsWord m < 65536 := by
  have two := fun n => Nat.mod_lt n (by decide : 0 < 2)
  have sixteen := fun n => Nat.mod_lt n (by decide : 0 < 16)
  -- the word as a numeral with digits qr, opcode, aa, tc, rd, ra, 0 (the three Z bits), rcode
  have e : flagsWord m = ((((((m.qr % 2 * 16 + m.opcode % 16) * 2 + m.aa % 2) * 2 + m.tc % 2) * 2 + m.rd % 2) * 2
      + m.ra % 2) * 8 + 0) * 16 + m.rcode % 16 := by
    simp +arith [flagsWord]
  obtain ⟨f7, h⟩ := low_digit e (sixteen _)
  obtain ⟨_, h⟩ := next_digit h (by decide : 0 < 8)
  obtain ⟨f6, h⟩ := next_digit h (two _)
  obtain ⟨f5, h⟩ := next_digit h (two _)
  obtain ⟨f4, h⟩ := next_digit h (two _)
  obtain ⟨f3, h⟩ := next_digit h (two _)
  obtain ⟨f2, h⟩ := next_digit h (sixteen _)
  exact ⟨h, f2, f3, f4, f5, f6, f7, (Nat.div_lt_iff_lt_mul (by decide)).mp (h ▸ two _)⟩

/-- the `match` all the list encoders and `encRR` share -/
theorem both_eq_some {a b : Option Bytes} {F : Bytes → Bytes → Bytes} {c : Bytes} :
    (match a, b with
      | some x, some y => some (F x y)
      | _, _ => none) = some c ↔ ∃ x y, a = some x ∧ b = some y ∧ c = F x y := by
  cases a <;> cases b <;> simp [eq_comm]

theorem encLabels_cons {l : Bytes} {ls : Name} {e : Bytes} :
    encLabels (l :: ls) = some e ↔ ∃ a b, lp8 l = some a ∧ encLabels ls = some b ∧ e = a ++ b :=
  both_eq_some

theorem encAlpn_cons {p : Bytes} {ps : List Bytes} {e : Bytes} :
    encAlpn (p :: ps) = some e ↔ ∃ a b, lp8 p = some a ∧ encAlpn ps = some b ∧ e = a ++ b :=
  both_eq_some

theorem encOpts_cons {o : Opt} {os : List Opt} {e : Bytes} :
    encOpts (o :: os) = some e ↔ ∃ a b, lp16 o.data = some a ∧ encOpts os = some b ∧ e = u16 o.code ++ a ++ b :=
  both_eq_some

theorem encRRs_cons {r : ERR} {rs : List ERR} {e : Bytes} :
    encRRs (r :: rs) = some e ↔ ∃ a b, encRR r = some a ∧ encRRs rs = some b ∧ e = a ++ b :=
  both_eq_some

theorem encQuestions_cons {q : EQuestion} {qs : List EQuestion} {e : Bytes} :
    encQuestions (q :: qs) = some e ↔ ∃ a b, encQuestion q = some a ∧ encQuestions qs = some b ∧ e = a ++ b :=
  both_eq_some

theorem encRR_eq_some {r : ERR} {e : Bytes} :
    encRR r = some e ↔ ∃ n d, encNameStr r.name = some n ∧ (encRData r.typ r.data).bind lp16 = some d ∧
      e = n ++ u16 r.typ ++ u16 r.cls ++ u32 r.ttl ++ d :=
  both_eq_some

theorem encode_eq_some {m : EMessage} {e : Bytes} :
    encode m = some e ↔ ∃ q a b c, encQuestions m.question = some q ∧ encRRs m.answer = some a ∧
      encRRs m.authority = some b ∧ encRRs m.additional = some c ∧
      e = u16 m.id ++ u16 (flagsWord m) ++ u16 m.question.length ++ u16 m.answer.length ++
          u16 m.authority.length ++ u16 m.additional.length ++ q ++ a ++ b ++ c := by
  rw [encode]
  split
  next q a b c hq ha hb hc =>
    refine ⟨fun h => ⟨q, a, b, c, hq, ha, hb, hc, (Option.some.inj h).symm⟩, ?_⟩
    rintro ⟨_, _, _, _, hq', ha', hb', hc', rfl⟩
    cases hq.symm.trans hq'
    cases ha.symm.trans ha'
    cases hb.symm.trans hb'
    cases hc.symm.trans hc'
    rfl
  next hn => exact ⟨nofun, fun ⟨q, a, b, c, hq, ha, hb, hc, _⟩ => (hn q a b c hq ha hb hc).elim⟩

theorem Labels.enc {raw rest : Bytes} : ∀ (n : Name) {e : Bytes} {w : Win},
    (∀ l ∈ n, 1 ≤ l.length ∧ l.length ≤ 63) → encLabels n = some e → w.b = e ++ 0 :: rest →
    Labels raw w n 0 (w.adv rest)
  | [], _, _, _, he, hw => by
    cases he
    exact .root hw
  | l :: ls, _, w, hok, he, hw => by
    obtain ⟨a, b, ha, hb, rfl⟩ := encLabels_cons.mp he
    obtain ⟨_, rfl⟩ := lp8_ok ha
    have hl := hok l List.mem_cons_self
    have hn : (UInt8.ofNat l.length).toNat = l.length :=
      UInt8.toNat_ofNat'.trans (Nat.mod_eq_of_lt (Nat.lt_of_le_of_lt hl.2 (by decide)))
    have hw' : w.b = UInt8.ofNat l.length :: (l ++ (b ++ 0 :: rest)) := by
      rw [hw]
      simp [u8]
    have ih := Labels.enc (raw := raw) ls (w := w.adv (b ++ 0 :: rest))
      (fun x hx => hok x (List.mem_cons_of_mem _ hx)) hb rfl
    rw [Win.adv_adv (a := UInt8.ofNat l.length :: l) (b := b ++ [0]) hw' (List.append_assoc b [0] rest).symm] at ih
    refine .label hw' hn.symm ?_ ?_ ih
    · exact fun h0 => Nat.ne_of_gt hl.1 (hn.symm.trans (congrArg UInt8.toNat h0))
    · rw [hn, Nat.div_eq_of_lt (Nat.lt_succ_of_le hl.2)]
      decide

theorem wU16_u16 {pos v : Nat} {rest : Bytes} (h : v < 65536) :
    wU16 ⟨pos, u16 v ++ rest⟩ = some (v, ⟨pos + 2, rest⟩) := by
  simp only [wU16, readU16_u16 h, Option.map_some, Win.adv_mk, u16_length]

theorem wU32_u32 {pos v : Nat} {rest : Bytes} (h : v < 4294967296) :
    wU32 ⟨pos, u32 v ++ rest⟩ = some (v, ⟨pos + 4, rest⟩) := by
  simp only [wU32, readU32_u32 h, Option.map_some, Win.adv_mk, u32_length]

theorem wLP16_lp16 {pos : Nat} {x e rest : Bytes} (h : lp16 x = some e) :
    wLP16 ⟨pos, e ++ rest⟩ = some (⟨pos + 2, x⟩, ⟨pos + (2 + x.length), rest⟩) := by
  have hr := readLP16_lp16 h rest
  obtain ⟨_, rfl⟩ := lp16_ok h
  simp only [wLP16, hr, Option.map_some, Win.adv_mk, List.length_append, u16_length]

/- The list decoders inside record data get the length of their input as fuel; each element the encoder
   writes is at least one byte long, so on its output that is enough. -/

theorem optsF_enc (l : List Opt) : ∀ (eb : Bytes) (fuel : Nat), encOpts l = some eb →
    (∀ o ∈ l, o.code < 65536) → eb.length ≤ fuel → optsF fuel eb = some l := by
  induction l with
  | nil => intro eb fuel he _ _; cases he; cases fuel <;> rfl
  | cons o os ih =>
    intro eb fuel he hok hf
    obtain ⟨a, b, ha, hb, rfl⟩ := encOpts_cons.mp he
    rw [List.append_assoc] at hf ⊢
    cases fuel with
    | zero => cases hf
    | succ k =>
      rw [List.length_append, u16_length, Nat.add_comm] at hf
      have hk : b.length ≤ k :=
        Nat.le_trans (List.length_append ▸ Nat.le_add_left ..) (Nat.le_of_succ_le_succ (Nat.le_of_succ_le hf))
      rw [optsF, if_neg (by simp [u16]), readU16_u16 (hok o List.mem_cons_self)]
      simp only [readLP16_lp16 ha b, ih b k hb (fun x hx => hok x (List.mem_cons_of_mem _ hx)) hk, Option.map_some]

theorem lp8ListF_enc (l : List Bytes) : ∀ (b : Bytes) (fuel : Nat), encAlpn l = some b → b.length ≤ fuel →
    lp8ListF fuel b = some l := by
  induction l with
  | nil => intro b fuel he _; cases he; cases fuel <;> rfl
  | cons p ps ih =>
    intro b fuel he hf
    obtain ⟨a, c, ha, hc, rfl⟩ := encAlpn_cons.mp he
    have h1 : readLP8 (a ++ c) = some (p, c) := readLP8_lp8 ha c
    obtain ⟨_, rfl⟩ := lp8_ok ha
    cases fuel with
    | zero => simp at hf
    | succ k =>
      have hk : c.length ≤ k := by
        simp only [List.length_append, u8_length] at hf
        omega
      rw [lp8ListF, if_neg (by simp [u8])]
      simp only [h1, ih c k hc hk, Option.map_some]

theorem chunksOfF_flat (l : List Bytes) (k : Nat) (hk : 0 < k) : ∀ (fuel : Nat), (∀ a ∈ l, a.length = k) →
    l.flatten.length ≤ fuel → chunksOfF fuel k l.flatten = some l := by
  induction l with
  | nil => intro fuel _ _; cases fuel <;> rfl
  | cons a as ih =>
    intro fuel h hf
    have ha := h a List.mem_cons_self
    rw [List.flatten_cons] at hf ⊢
    have hne : a ++ as.flatten ≠ [] := fun h0 =>
      Nat.ne_of_gt hk (ha.symm.trans (List.length_eq_zero_iff.mpr (List.append_eq_nil_iff.mp h0).1))
    cases fuel with
    | zero => exact absurd (List.length_eq_zero_iff.mp (Nat.le_zero.mp hf)) hne
    | succ f =>
      have hk' : as.flatten.length ≤ f := by
        rw [List.length_append, ha] at hf
        omega
      rw [chunksOfF, if_neg hne]
      simp only [readN_append' a _ ha, ih f (fun x hx => h x (List.mem_cons_of_mem _ hx)) hk', Option.map_some]

/-- One parameter the encoder writes when `c` does not hold (a list is not empty, a flag is set, …)
    and leaves out when it does. `U` is its effect on the record being built, `G` the effect of
    the parameters behind it. -/
theorem httpsParamsF_step {c : Prop} [Decidable c] {k : Nat} {v seg rest : Bytes} {U G : Https → Https}
    (hseg : (if c then some [] else param k v) = some seg) (hk : k < 65536)
    (hc : c → ∀ h, U h = h) (hU : ¬c → ∀ h, hpInterp k v h = some (U h))
    (hrest : ∀ f h, rest.length ≤ f → httpsParamsF f rest h = some (G h)) :
    ∀ f h, (seg ++ rest).length ≤ f → httpsParamsF f (seg ++ rest) h = some (G (U h)) := by
  intro f h hf
  by_cases hcc : c
  · rw [if_pos hcc] at hseg
    cases hseg
    rw [hc hcc]
    exact hrest f h hf
  · rw [if_neg hcc, param, Option.map_eq_some_iff] at hseg
    obtain ⟨x, hx, rfl⟩ := hseg
    rw [List.append_assoc] at hf ⊢
    cases f with
    | zero => cases hf
    | succ f =>
      have hf' : rest.length ≤ f := by
        simp only [List.length_append, u16_length] at hf
        omega
      rw [httpsParamsF_succ, if_neg (by simp [u16]), readU16_u16 hk]
      simp only [Option.bind_some, readLP16_lp16 hx rest, hU hcc]
      exact hrest f _ hf'

theorem httpsParams_enc (alpn : List Bytes) (nd : Bool) (port : Nat) (v4 v6 : List Bytes) (ech a h4 e h6 : Bytes)
    (h0 : Https) (fuel : Nat)
    (ha : (if alpn = [] then some [] else (encAlpn alpn).bind (param 1)) = some a)
    (hh4 : (if v4 = [] then some [] else param 4 v4.flatten) = some h4)
    (he : (if ech = [] then some [] else param 5 ech) = some e)
    (hh6 : (if v6 = [] then some [] else param 6 v6.flatten) = some h6)
    (hport : port < 65536) (hv4 : ∀ x ∈ v4, x.length = 4) (hv6 : ∀ x ∈ v6, x.length = 16)
    (hf : (a ++ ((if nd then u16 2 ++ u16 0 else []) ++
        ((if port > 0 then u16 3 ++ (u16 2 ++ u16 port) else []) ++ (h4 ++ (e ++ h6))))).length ≤ fuel) :
    httpsParamsF fuel (a ++ ((if nd then u16 2 ++ u16 0 else []) ++
        ((if port > 0 then u16 3 ++ (u16 2 ++ u16 port) else []) ++ (h4 ++ (e ++ h6))))) h0 =
      some { h0 with alpn := h0.alpn ++ alpn, noDefaultALPN := (if nd then true else h0.noDefaultALPN),
                     port := (if port > 0 then port else h0.port), v4 := h0.v4 ++ v4,
                     ech := (if ech = [] then h0.ech else ech), v6 := h0.v6 ++ v6 } := by
  obtain ⟨ab, hab⟩ : ∃ ab, encAlpn alpn = some ab := by
    by_cases hz : alpn = []
    · exact ⟨[], hz ▸ rfl⟩
    · rw [if_neg hz, Option.bind_eq_some_iff] at ha
      exact ⟨_, ha.choose_spec.1⟩
  simp only [hab] at ha
  -- the two parameters `encRData` writes by hand, as parameters
  have h2 : (if ¬nd = true then some [] else param 2 []) = some (if nd then u16 2 ++ u16 0 else []) := by
    cases nd <;> rfl
  have h3 : (if ¬port > 0 then some [] else param 3 (u16 port)) =
      some (if port > 0 then u16 3 ++ (u16 2 ++ u16 port) else []) := by
    by_cases hz : port > 0 <;> simp [hz, param, lp16]
  have hr : readU16 (u16 port) = some (port, []) := List.append_nil (u16 port) ▸ readU16_u16 hport []
  -- One step per parameter, the last on the wire first: each rests on the one behind it. Each `U` is
  -- the identity when its parameter is left out.
  -- ipv6hint (key 6)
  have key6 := httpsParamsF_step (U := fun h => { h with v6 := h.v6 ++ v6 }) (G := id) hh6 (by decide)
    (fun hc h => by rw [hc, List.append_nil])
    (fun _ h => by
      rw [hpInterp_6, chunksOfF_flat v6 16 (by decide) _ hv6 (Nat.le_refl _)]
      rfl)
    (fun f h _ => httpsParamsF_nil f h)
  -- ech (key 5)
  have key5 := httpsParamsF_step (U := fun h => { h with ech := if ech = [] then h.ech else ech }) he (by decide)
    (fun hc h => by rw [if_pos hc])
    (fun hc h => by rw [hpInterp_5, if_neg hc])
    key6
  -- ipv4hint (key 4)
  have key4 := httpsParamsF_step (U := fun h => { h with v4 := h.v4 ++ v4 }) hh4 (by decide)
    (fun hc h => by rw [hc, List.append_nil])
    (fun _ h => by
      rw [hpInterp_4, chunksOfF_flat v4 4 (by decide) _ hv4 (Nat.le_refl _)]
      rfl)
    key5
  -- port (key 3)
  have key3 := httpsParamsF_step (U := fun h => { h with port := if port > 0 then port else h.port }) h3 (by decide)
    (fun hc h => by rw [if_neg hc])
    (fun hc h => by
      rw [hpInterp_3, hr, if_pos (Decidable.not_not.mp hc)]
      rfl)
    key4
  -- no-default-alpn (key 2)
  have key2 := httpsParamsF_step (U := fun h => { h with noDefaultALPN := if nd then true else h.noDefaultALPN })
    h2 (by decide)
    (fun hc h => by rw [if_neg hc])
    (fun hc h => by rw [hpInterp_2, if_pos (Decidable.not_not.mp hc)])
    key3
  -- alpn (key 1), the first on the wire
  have key1 := httpsParamsF_step (U := fun h => { h with alpn := h.alpn ++ alpn }) ha (by decide)
    (fun hc h => by rw [hc, List.append_nil])
    (fun _ h => by
      rw [hpInterp_1, lp8ListF_enc alpn ab _ hab (Nat.le_refl _)]
      rfl)
    key2
  simp only [List.append_nil] at key1
  exact key1 fuel h0 hf

theorem encRRs_append {l1 l2 : List ERR} {e : Bytes} :
    encRRs (l1 ++ l2) = some e ↔ ∃ a b, encRRs l1 = some a ∧ encRRs l2 = some b ∧ e = a ++ b := by
  induction l1 generalizing e with
  | nil => simp [encRRs]
  | cons r rs ih =>
    simp only [List.cons_append, encRRs_cons, ih]
    constructor
    · rintro ⟨a, _, ha, ⟨b, c, hb, hc, rfl⟩, rfl⟩
      exact ⟨_, c, ⟨a, b, ha, hb, rfl⟩, hc, (List.append_assoc ..).symm⟩
    · rintro ⟨_, c, ⟨a, b, ha, hb, rfl⟩, hc, rfl⟩
      exact ⟨a, _, ha, ⟨b, c, hb, hc, rfl⟩, List.append_assoc ..⟩

theorem encRRs_set_len {l : List ERR} {p : Nat} {x x' : ERR} {b b' : Bytes} (hp : p < l.length)
    (h : encRRs (l.set p x) = some b) (h' : encRRs (l.set p x') = some b') :
    ∃ e e', encRR x = some e ∧ encRR x' = some e' ∧ b'.length + e.length = b.length + e'.length := by
  rw [List.set_eq_take_append_cons_drop, if_pos hp, encRRs_append] at h h'
  obtain ⟨a, _, ha, h, rfl⟩ := h
  obtain ⟨a', _, ha', h', rfl⟩ := h'
  obtain ⟨e, c, he, hc, rfl⟩ := encRRs_cons.mp h
  obtain ⟨e', c', he', hc', rfl⟩ := encRRs_cons.mp h'
  cases ha.symm.trans ha'
  cases hc.symm.trans hc'
  refine ⟨e, e', he, he', ?_⟩
  simp only [List.length_append]
  omega

theorem encOpts_snoc {a : List Opt} {o : Opt} {ea : Bytes} (ha : encOpts a = some ea) (ho : o.data.length < 65536) :
    encOpts (a ++ [o]) = some (ea ++ (u16 o.code ++ (u16 o.data.length ++ o.data))) := by
  induction a generalizing ea with
  | nil =>
    cases ha
    simp [encOpts, lp16, ho]
  | cons x xs ih =>
    obtain ⟨a1, b1, h1, h2, rfl⟩ := encOpts_cons.mp ha
    exact encOpts_cons.mpr ⟨a1, _, h1, ih h2, by simp⟩

theorem encRR_opts_len {r : ERR} {os : List Opt} {o : Opt} {e1 e2 : Bytes} (ho : o.data.length < 65536)
    (h1 : encRR (withOpts r os) = some e1) (h2 : encRR (withOpts r (os ++ [o])) = some e2) :
    e2.length = e1.length + 4 + o.data.length := by
  obtain ⟨n, d1, hn, hd1, rfl⟩ := encRR_eq_some.mp h1
  obtain ⟨n', d2, hn', hd2, rfl⟩ := encRR_eq_some.mp h2
  cases hn.symm.trans hn'
  simp only [Option.bind_eq_some_iff] at hd1 hd2
  obtain ⟨eo, ho1, hd1⟩ := hd1
  obtain ⟨eo', ho2, hd2⟩ := hd2
  cases (encOpts_snoc ho1 ho).symm.trans ho2
  obtain ⟨_, rfl⟩ := lp16_ok hd1
  obtain ⟨_, rfl⟩ := lp16_ok hd2
  simp only [List.length_append, u16_length, u32_length]
  omega

theorem padLen_spec (n : Nat) : (n + 4 + padLen n) % 128 = 0 := by
  unfold padLen
  omega

end DNS
