import EchVerif.Props.C01
import EchVerif.Props.C02
import EchVerif.Props.C03
import EchVerif.Props.C04
import EchVerif.Props.C05
import EchVerif.Props.C06
import EchVerif.Props.C07
import EchVerif.Props.C08
import EchVerif.Props.C09
import EchVerif.Props.C10
import EchVerif.Props.C11
import EchVerif.Props.C12
import EchVerif.Props.C13
import EchVerif.Props.C14
import EchVerif.Props.C15
import EchVerif.Props.C16
import EchVerif.Props.C17
import EchVerif.Props.C18
import EchVerif.Props.C19
import EchVerif.Props.C20
import EchVerif.DNS.Text
